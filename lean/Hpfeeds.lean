import Hpfeeds.Extracted
import Hpfeeds.Model.Bytes
import Hpfeeds.Model.Wire
import Hpfeeds.Model.Sha1
import Hpfeeds.Model.Broker
import Hpfeeds.Model.BrokerValid
import Hpfeeds.Model.BrokerFault
import Hpfeeds.Model.Proto3
import Hpfeeds.Model.Stores
import Hpfeeds.Model.JsonReload
import Hpfeeds.Model.AioClient
import Hpfeeds.Model.PollQueue
import Hpfeeds.Model.BlkSession
import Hpfeeds.Model.BlkClient
import Hpfeeds.Lemmas.Wire
import Hpfeeds.Lemmas.StoresEnv
import Hpfeeds.Lemmas.Run
import Hpfeeds.Lemmas.Star
import Hpfeeds.Lemmas.BrokerHandler
import Hpfeeds.Lemmas.BrokerEqns
import Hpfeeds.Lemmas.BrokerPres
import Hpfeeds.Lemmas.BrokerEffect
import Hpfeeds.Lemmas.BrokerReg
import Hpfeeds.Lemmas.BrokerMoves
import Hpfeeds.Lemmas.BrokerMono
import Hpfeeds.Lemmas.BrokerFanout
import Hpfeeds.Lemmas.BrokerDeliv
import Hpfeeds.Lemmas.BrokerFrame
import Hpfeeds.Lemmas.BrokerSession
import Hpfeeds.Lemmas.BrokerTime
import Hpfeeds.Lemmas.BrokerGauge
import Hpfeeds.Lemmas.BrokerChunk
import Hpfeeds.Lemmas.Aio.Prim
import Hpfeeds.Lemmas.Aio.Eff
import Hpfeeds.Lemmas.Aio.Step
import Hpfeeds.Lemmas.Aio.Task
import Hpfeeds.Lemmas.Aio.Inv
import Hpfeeds.Lemmas.Aio.Obs
import Hpfeeds.Lemmas.Aio.Reconnect
import Hpfeeds.Lemmas.PollQueue
import Hpfeeds.Lemmas.BlkAtoms
import Hpfeeds.Lemmas.BlkSession
import Hpfeeds.Lemmas.BlkDecoder
import Hpfeeds.Lemmas.BlkClient
import Hpfeeds.Lemmas.BlkClientPrompt
import Hpfeeds.Lemmas.BlkClientSteps
import Hpfeeds.Legacy
import Hpfeeds.Props.C01
import Hpfeeds.Props.C02
import Hpfeeds.Props.C03
import Hpfeeds.Props.C04
import Hpfeeds.Props.C05
import Hpfeeds.Props.C06
import Hpfeeds.Props.C07
import Hpfeeds.Props.C08
import Hpfeeds.Props.C09
import Hpfeeds.Props.C10
import Hpfeeds.Props.C11
import Hpfeeds.Props.C12
import Hpfeeds.Props.C13
import Hpfeeds.Props.C14
import Hpfeeds.Props.C15
import Hpfeeds.Props.C16
import Hpfeeds.Props.C17
import Hpfeeds.Props.C18
import Hpfeeds.Props.C19
import Hpfeeds.Props.C20
