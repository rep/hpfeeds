/-
  The exported gauges and counters equal what they are supposed to count, in every reachable state.
  Every exported number is a count over the records of the connections ever made (`cnt`), so a primitive that sets
  one record moves each number by the difference between what the new record contributes and what the old one did, if
  there was one (`cnt_set`, `gauge_of_update`).  `connection_lost` moves two counters before it touches the record:
  `GaugeOff` carries that debt.
-/
import Hpfeeds.Lemmas.BrokerMoves
namespace Hpfeeds.Broker
open Hpfeeds Extracted

def holds (s : State) (p : Conn → Bool) (c : Nat) : Bool :=
  match s.conn c with
  | some x => p x
  | none => false

def cnt (s : State) (p : Conn → Bool) : Int := ((s.ids.filter (holds s p)).length : Int)

def pReg (x : Conn) : Bool := x.registered
def pSub (l : Option Bytes) (ch : Bytes) (x : Conn) : Bool := decide (x.ak = l) && decide (ch ∈ x.active)
def pLost (l : Option Bytes) (x : Conn) : Bool := decide (x.lostAs = some l)

structure GaugeOff (dc : Int) (dl : Option Bytes → Int) (s : State) : Prop where
  conns : s.gConns = cnt s pReg + dc
  subs : ∀ l ch, s.gSubs l ch = cnt s (pSub l ch)
  made : s.cMade = s.ids.length
  lost : ∀ l, (s.cLost l : Int) = cnt s (pLost l) + dl l
  lostAs : ∀ c x, s.conn c = some x → (x.registered = true ↔ x.lostAs = none)

abbrev Gauge (s : State) : Prop := GaugeOff 0 (fun _ => 0) s

theorem filter_length_update (l : List Nat) (hnd : l.Nodup) (c : Nat) (hc : c ∈ l) (f g : Nat → Bool)
    (h : ∀ d, d ≠ c → g d = f d) :
    ((l.filter g).length : Int) = (l.filter f).length + (if g c then 1 else 0) - (if f c then 1 else 0) := by
  -- `c` occurs once: cut the list there; on both sides of it the two filters agree
  obtain ⟨l1, l2, rfl⟩ := List.append_of_mem hc
  obtain ⟨_, h2, h1⟩ := List.nodup_append.mp hnd
  have e1 : ∀ d ∈ l1, g d = f d := fun d hd => h d fun hdc => h1 d hd c List.mem_cons_self hdc
  have e2 : ∀ d ∈ l2, g d = f d := fun d hd => h d fun hdc => (List.nodup_cons.mp h2).1 (hdc ▸ hd)
  simp only [List.filter_append, List.filter_cons, List.filter_congr e1, List.filter_congr e2]
  cases g c <;> cases f c <;> simp <;> omega

theorem cnt_congr {s s' : State} {p p' : Conn → Bool} (hids : s'.ids = s.ids)
    (h : ∀ d ∈ s.ids, holds s' p' d = holds s p d) : cnt s' p' = cnt s p := by
  unfold cnt
  rw [hids, List.filter_congr h]

theorem cnt_eq_zero {s : State} {p : Conn → Bool} (h : ∀ c x, s.conn c = some x → p x = false) : cnt s p = 0 := by
  unfold cnt
  rw [List.filter_eq_nil_iff.mpr fun c _ => by
    unfold holds
    cases hx : s.conn c with
    | none => simp
    | some x => simp [h c x hx]]
  rfl

theorem cnt_set {s s' : State} {c : Nat} {y : Conn} (p : Conn → Bool) (hr : Reg s) (hset : SetRec s s' c y) :
    cnt s' p = cnt s p + (if p y then 1 else 0) - (if holds s p c then 1 else 0) := by
  have ho : ∀ d, d ≠ c → holds s' p d = holds s p d := fun d hd => by unfold holds; rw [hset.conn, if_neg hd]
  have hy : holds s' p c = p y := by unfold holds; rw [hset.conn, if_pos rfl]
  unfold cnt
  rw [hset.ids]
  cases hx : s.conn c with
  | some x =>
    show ((s.ids.filter (holds s' p)).length : Int) = _
    rw [filter_length_update s.ids hr.ids_nodup c ((hr.ids_iff c).mpr (by rw [hx]; rfl)) (holds s p) (holds s' p) ho,
      hy]
  | none =>
    have hc : c ∉ s.ids := fun hm => by have := (hr.ids_iff c).mp hm; rw [hx] at this; cases this
    have hn : holds s p c = false := by unfold holds; rw [hx]
    show (((s.ids ++ [c]).filter (holds s' p)).length : Int) = _
    rw [List.filter_append, List.filter_congr fun d hd => ho d fun hdc => hc (hdc ▸ hd), List.length_append, hn]
    simp only [List.filter_cons, List.filter_nil, hy]
    split <;> simp

theorem gauge_init : Gauge init := by
  constructor <;> simp [init, cnt]

theorem gauge_local {dc : Int} {dl : Option Bytes → Int} {s : State} (c : Nat) (f : Conn → Conn)
    (hf : ∀ x, (f x).registered = x.registered ∧ (f x).ak = x.ak ∧ (f x).active = x.active ∧
      (f x).lostAs = x.lostAs) (h : GaugeOff dc dl s) : GaugeOff dc dl (s.upd c f) := by
  cases hx : s.conn c with
  | none => rw [upd_of_none f hx]; exact h
  | some x =>
    obtain ⟨h1, h2, h3, h4⟩ := hf x
    have hh : ∀ p : Conn → Bool, p (f x) = p x → cnt (s.upd c f) p = cnt s p := fun p hp =>
      cnt_congr rfl fun d _ => by
        unfold holds
        rw [upd_conn_at f hx]
        by_cases hd : d = c
        · rw [if_pos hd, hd, hx]; exact hp
        · rw [if_neg hd]
    refine ⟨?_, fun l ch => ?_, h.made, fun l => ?_,
      (SetRec.upd f hx).allRec (by rw [h1, h4]; exact h.lostAs c x hx) h.lostAs⟩
    · rw [hh pReg (by unfold pReg; rw [h1])]; exact h.conns
    · rw [hh (pSub l ch) (by unfold pSub; rw [h2, h3])]; exact h.subs l ch
    · rw [hh (pLost l) (by unfold pLost; rw [h4])]; exact h.lost l

theorem gauge_of_update {dc dc' : Int} {dl dl' : Option Bytes → Int} {s s' : State} {c : Nat} {y : Conn} (hr : Reg s)
    (hset : SetRec s s' c y)
    (hconns : s'.gConns - dc' = s.gConns - dc + ((if pReg y then 1 else 0) - (if holds s pReg c then 1 else 0)))
    (hsubs : ∀ l ch, s'.gSubs l ch =
      s.gSubs l ch + ((if pSub l ch y then 1 else 0) - (if holds s (pSub l ch) c then 1 else 0)))
    (hmade : s'.cMade = s'.ids.length)
    (hlost : ∀ l, (s'.cLost l : Int) - dl' l =
      s.cLost l - dl l + ((if pLost l y then 1 else 0) - (if holds s (pLost l) c then 1 else 0)))
    (hla : y.registered = true ↔ y.lostAs = none)
    (h : GaugeOff dc dl s) : GaugeOff dc' dl' s' := by
  have upd := fun p => cnt_set p hr hset
  refine ⟨?_, fun l ch => ?_, hmade, fun l => ?_, hset.allRec hla h.lostAs⟩
  · have := h.conns
    rw [upd]
    omega
  · rw [upd, hsubs, h.subs, Int.add_sub_assoc]
  · have := h.lost l
    have := hlost l
    rw [upd]
    omega

theorem gauge_of_subs {dc : Int} {dl : Option Bytes → Int} {s s' : State} (c : Nat) (x y : Conn) (hr : Reg s)
    (hx : s.conn c = some x) (hconn : ∀ d, s'.conn d = if d = c then some y else s.conn d)
    (hids : s'.ids = s.ids) (hreg : y.registered = x.registered) (hla : y.lostAs = x.lostAs)
    (h1 : s'.gConns = s.gConns) (h2 : s'.cMade = s.cMade) (h3 : s'.cLost = s.cLost)
    (hsubs : ∀ l ch, s'.gSubs l ch =
      s.gSubs l ch + (if pSub l ch y then 1 else 0) - (if pSub l ch x then 1 else 0))
    (h : GaugeOff dc dl s) : GaugeOff dc dl s' :=
  gauge_of_update hr ⟨hconn, by rw [hx, hids]; rfl⟩
    (by rw [h1]; simp only [holds, hx, pReg, hreg, Int.sub_self, Int.add_zero])
    (fun l ch => by rw [hsubs, Int.add_sub_assoc]; simp only [holds, hx]) (by rw [h2, hids]; exact h.made)
    (fun l => by rw [h3]; simp only [holds, hx, pLost, hla, Int.sub_self, Int.add_zero])
    (by rw [hreg, hla]; exact h.lostAs c x hx) h

theorem gauge_subscribe {dc : Int} {dl : Option Bytes → Int} {s : State} (c : Nat) (ch : Bytes) (x : Conn)
    (hx : s.conn c = some x) (hr : Reg s) (h : GaugeOff dc dl s) : GaugeOff dc dl (subscribe s c ch) := by
  by_cases hin : ch ∈ x.active
  · rw [subscribe_noop hx hin]; exact h
  · rw [subscribe_eq hx hin]
    refine gauge_of_subs c x { x with active := x.active ++ [ch] } hr hx (fun d => rfl)
      rfl rfl rfl rfl rfl rfl (fun l ch' => ?_) h
    show bump s.gSubs x.ak ch 1 l ch' = _
    unfold bump pSub
    by_cases hl : x.ak = l
    · subst hl
      by_cases hc : ch' = ch
      · subst hc; simp [hin]
      · simp [hc]
    · have hl' : ¬ l = x.ak := fun h' => hl h'.symm
      simp [hl, hl']

theorem gauge_unsubscribe {dc : Int} {dl : Option Bytes → Int} {s : State} (c : Nat) (ch : Bytes)
    (hr : Reg s) (h : GaugeOff dc dl s) : GaugeOff dc dl (unsubscribe s c ch) := by
  cases hx : s.conn c with
  | none => rw [unsubscribe_none hx]; exact h
  | some x =>
    by_cases hin : ch ∈ x.active
    · rw [unsubscribe_eq hx hin]
      have hnd := hr.act_nodup c x hx
      refine gauge_of_subs c x { x with active := x.active.erase ch } hr hx (fun d => rfl)
        rfl rfl rfl rfl rfl rfl (fun l ch' => ?_) h
      show bump s.gSubs x.ak ch (-1) l ch' = _
      unfold bump pSub
      by_cases hl : x.ak = l
      · subst hl
        by_cases hc : ch' = ch
        · subst hc
          have : ch' ∉ x.active.erase ch' := fun hm => ((List.Nodup.mem_erase_iff hnd).mp hm).1 rfl
          simp [hin, this]; omega
        · simp [hc, List.Nodup.mem_erase_iff hnd]
      · have hl' : ¬ l = x.ak := fun h' => hl h'.symm
        simp [hl, hl']
    · rw [unsubscribe_noop hx hin]; exact h

theorem gauge_connectionLost {s : State} (c : Nat) (hr : Reg s) (h : Gauge s) : Gauge (connectionLost s c) := by
  cases hx : s.conn c with
  | none =>
    have : connectionLost s c = s := by unfold connectionLost; rw [hx]
    rw [this]; exact h
  | some x =>
    by_cases hreg : x.registered = true
    · have hlostAs : x.lostAs = none := (h.lostAs c x hx).mp hreg
      have h1 : GaugeOff (-1) (fun l => if l = x.ak then 1 else 0) (countLost s x.ak) := by
        refine ⟨?_, h.subs, h.made, fun l => ?_, h.lostAs⟩
        · show s.gConns - 1 = cnt s pReg + -1
          rw [h.conns]; omega
        · show ((if l = x.ak then s.cLost l + 1 else s.cLost l : Nat) : Int) = cnt s (pLost l) + _
          rw [← show (s.cLost l : Int) = cnt s (pLost l) from h.lost l]
          split <;> simp
      have hr1 : Reg (countLost s x.ak) := reg_congr (s := s) rfl rfl rfl hr
      -- then the subscriptions, one by one: the offsets stay
      obtain ⟨hr2, h2⟩ := foldl_pres (P := fun t => Reg t ∧ GaugeOff (-1) (fun l => if l = x.ak then 1 else 0) t)
        (fun _ ch k => ⟨reg_unsubscribe c ch k.1, gauge_unsubscribe c ch k.1 k.2⟩) x.active ⟨hr1, h1⟩
      have hc2 := foldl_unsubscribe_conn (s := countLost s x.ak) (c := c) x.active hx
      rw [foldl_erase_self] at hc2
      unfold connectionLost
      rw [hx]
      simp only [hreg, if_true]
      generalize (x.active.foldl (fun s ch => unsubscribe s c ch) (countLost s x.ak)) = s2 at h2 hr2 hc2 ⊢
      -- the record last: the offsets are paid
      refine gauge_of_update hr2 (.upd _ hc2) ?_ (fun l ch => ?_) h2.made (fun l => ?_)
        (by simp) h2
      · show s2.gConns - 0 = _
        simp only [holds, hc2, pReg, hreg]
        simp
        omega
      · show s2.gSubs l ch = _
        simp [holds, hc2, pSub]
      · show (s2.cLost l : Int) - 0 = _
        simp only [holds, hc2, pLost, hlostAs, eq_comm (a := l)]
        by_cases hl : x.ak = l <;> simp [hl]
    · have hreg' : x.registered = false := by simpa using hreg
      rw [connectionLost_noop hx hreg']; exact h

theorem bump_apply (g : Option Bytes → Bytes → Int) (a : Option Bytes) (ch : Bytes) (n : Int) (l : Option Bytes)
    (ch' : Bytes) : bump g a ch n l ch' = g l ch' + if l = a ∧ ch' = ch then n else 0 := by
  unfold bump; split <;> simp

theorem foldl_bump (act : List Bytes) (hnd : act.Nodup) (g : Option Bytes → Bytes → Int)
    (a : Option Bytes) (ident : Bytes) (l : Option Bytes) (ch' : Bytes) :
    (act.foldl (fun g ch => bump (bump g a ch (-1)) (some ident) ch 1) g) l ch' =
      g l ch' - (if l = a ∧ ch' ∈ act then 1 else 0) + (if l = some ident ∧ ch' ∈ act then 1 else 0) := by
  induction act generalizing g with
  | nil => simp
  | cons ch act ih =>
    obtain ⟨hch, hnd'⟩ := List.nodup_cons.mp hnd
    rw [List.foldl_cons, ih hnd', bump_apply, bump_apply]
    by_cases h1 : ch' = ch
    · subst h1; simp [hch]; split <;> omega
    · simp [h1]

theorem gauge_setAuth {s : State} (c : Nat) (i d : Bytes) (row : Row) (hr : Reg s) (h : Gauge s) :
    Gauge (setAuth s c i d row) := by
  unfold setAuth
  cases hx : s.conn c with
  | none => exact h
  | some x =>
    refine gauge_of_subs c x _ hr hx (upd_conn_at _ hx) rfl rfl rfl rfl rfl rfl (fun l ch => ?_) h
    show (x.active.foldl (fun g ch => bump (bump g x.ak ch (-1)) (some i) ch 1) s.gSubs) l ch = _
    rw [foldl_bump _ (hr.act_nodup c x hx)]
    simp only [pSub, Bool.and_eq_true, decide_eq_true_eq, eq_comm (a := l)]
    omega

theorem gauge_tupd {c : Nat} {s s' : State} (q : TUpd c s s') (h : Gauge s) : Gauge s' := by
  obtain ⟨f, rfl, hf⟩ := q
  refine gauge_local c f (fun x => ?_) h
  rw [(TSteps.session (hf x)).1]
  exact ⟨rfl, rfl, rfl, rfl⟩

theorem gauge_deliverF {s : State} (F : Nat → Bool) (f : Frame) (d : Nat) (hr : Reg s) (h : Gauge s) :
    Gauge (deliverF F f s d) := by
  fun_cases deliverF F f s d
  · exact h
  · exact gauge_connectionLost d hr h
  · exact gauge_tupd (tupd_closeT s d) h
  · exact gauge_local d _ (fun _ => ⟨rfl, rfl, rfl, rfl⟩) h

theorem gauge_publishF {s : State} (F : Nat → Bool) (c : Nat) (x : Conn) (i ch p : Bytes) (hr : Reg s) (h : Gauge s) :
    Gauge (publishF F s c x i ch p) :=
  -- the fan-out loop keeps the invariant, and appending to `accepted` changes nothing it reads
  have g := (foldl_pres (P := fun t => Reg t ∧ Gauge t)
    (fun _ d k => ⟨reg_deliverF F _ d k.1, gauge_deliverF F _ d k.1 k.2⟩) (s.subs ch).eraseDups ⟨hr, h⟩).2
  ⟨g.conns, g.subs, g.made, g.lost, g.lostAs⟩

theorem gauge_addConn {cfg : Cfg} {s : State} (c : Nat) (n : Bytes) (hc : s.conn c = none) (hr : Reg s)
    (h : Gauge s) : Gauge (addConn cfg s c n) := by
  refine gauge_of_update hr ⟨fun d => rfl, by rw [hc]; rfl⟩ ?_ (fun l ch => ?_) ?_ (fun l => ?_) (by simp) h
  · show s.gConns + 1 - 0 = _; simp [holds, hc, pReg]
  · show s.gSubs l ch = _; simp [holds, hc, pSub]
  · show s.cMade + 1 = (s.ids ++ [c]).length; rw [h.made]; simp
  · show (s.cLost l : Int) - 0 = _; simp [holds, hc, pLost]

theorem regGaugePres (cfg : Cfg) : Pres cfg (fun s => Reg s ∧ Gauge s) where
  prim := fun c => presAt_ofTUpd
    (transport := fun _ _ q h => ⟨reg_tupd q h.1, gauge_tupd q h.2⟩)
    (doSubscribe := fun _ ch ok x hx hr _ _ _ h =>
      ⟨reg_doSubscribe c ch ok x hx hr h.1,
       gauge_local c _ (fun _ => ⟨rfl, rfl, rfl, rfl⟩) (gauge_subscribe c ch x hx h.1 h.2)⟩)
    (doUnsubscribe := fun _ ch _ _ _ _ h =>
      ⟨reg_doUnsubscribe c ch h.1, gauge_local c _ (fun _ => ⟨rfl, rfl, rfl, rfl⟩) (gauge_unsubscribe c ch h.1 h.2)⟩)
    (setAuth := fun _ i d row _ _ _ h => ⟨reg_setAuth c i d row h.1, gauge_setAuth c i d row h.1 h.2⟩)
    (publish := fun _ x i ch p _ _ _ _ h =>
      ⟨reg_publish c x i ch p h.1, publishF_none ▸ gauge_publishF (fun _ => false) c x i ch p h.1 h.2⟩)
    (addConn := fun _ n hc h => ⟨reg_addConn c n hc h.1, gauge_addConn c n hc h.1 h.2⟩)
    (lostConn := fun _ x hx _ h => ⟨reg_lostConn c x hx h.1,
      gauge_local c _ (fun _ => ⟨rfl, rfl, rfl, rfl⟩)
        (gauge_tupd (tupd_peerClose _ c) (gauge_connectionLost c h.1 h.2))⟩)
  tick := fun s ms h => ⟨(regPres cfg).tick s ms h.1, ⟨h.2.conns, h.2.subs, h.2.made, h.2.lost, h.2.lostAs⟩⟩

theorem gauge_runF (cfg : Cfg) (es : List (Store × List Nat × Event)) : Gauge (runF cfg es) :=
  (pres_runF cfg (fun st => regGaugePres (cfg.withStore st))
    (fun F c _ x i ch p _ _ _ _ h => ⟨reg_publishF F c x i ch p h.1, gauge_publishF F c x i ch p h.1 h.2⟩)
    ⟨reg_init, gauge_init⟩ es).2

theorem gauge_runS (cfg : Cfg) (es : List (Store × Event)) : Gauge (runS cfg es) :=
  runS_eq_runF cfg es ▸ gauge_runF cfg _

theorem gauge_run (cfg : Cfg) (es : List Event) : Gauge (run cfg es) :=
  run_eq_runS cfg es ▸ gauge_runS cfg _

theorem cnt_or (s : State) (p r : Conn → Bool) (h : ∀ x, p x = true → r x = false) :
    cnt s (fun x => p x || r x) = cnt s p + cnt s r := by
  unfold cnt
  induction s.ids with
  | nil => rfl
  | cons d l ih =>
    have e : holds s (fun x => p x || r x) d = (holds s p d || holds s r d) := by
      unfold holds; cases s.conn d <;> rfl
    have hd : holds s p d = true → holds s r d = false := by unfold holds; cases s.conn d <;> simp; exact h _
    simp only [List.filter_cons, e]
    cases hp : holds s p d <;> cases hr : holds s r d <;> simp [ih]
    · omega
    · omega
    · rw [hd hp] at hr; cases hr

theorem gauge_labels_total {s : State} (h : Gauge s) (ch : Bytes) (L : List (Option Bytes)) (hL : L.Nodup) :
    (L.map (fun l => s.gSubs l ch)).sum = cnt s (fun x => decide (x.ak ∈ L) && decide (ch ∈ x.active)) := by
  induction L with
  | nil => exact (cnt_eq_zero fun _ _ _ => by simp).symm
  | cons a L ih =>
    obtain ⟨ha, hL'⟩ := List.nodup_cons.mp hL
    rw [List.map_cons, List.sum_cons, ih hL', h.subs, ← cnt_or]
    · congr 1; funext x
      by_cases hq : ch ∈ x.active <;> simp [pSub, hq, eq_comm]
    · intro x hx
      simp only [pSub, Bool.and_eq_true, decide_eq_true_eq] at hx
      simp [hx.1, ha]

theorem gauge_channel_total {s : State} (h : Gauge s) (ch : Bytes) (L : List (Option Bytes)) (hL : L.Nodup)
    (hcover : ∀ c x, s.conn c = some x → ch ∈ x.active → x.ak ∈ L) :
    (L.map (fun l => s.gSubs l ch)).sum = cnt s (fun x => decide (ch ∈ x.active)) := by
  rw [gauge_labels_total h ch L hL]
  refine cnt_congr rfl fun d _ => ?_
  unfold holds
  cases hx : s.conn d with
  | none => rfl
  | some x => simpa using hcover d x hx

end Hpfeeds.Broker
