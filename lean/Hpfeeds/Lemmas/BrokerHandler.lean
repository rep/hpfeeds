/-
  The frame handler and the frame loop as equations: what `messageReceivedG` is once the record of the connection and
  the outcome of `read` are known, what `loop` is once the header at the front of the buffer is known.  Unfolding the
  handler and splitting it in a client is slow to check; rewriting with these is not.
-/
import Hpfeeds.Model.BrokerFault
import Hpfeeds.Lemmas.Wire
namespace Hpfeeds.Broker
open Hpfeeds Extracted

variable {pub : Pub} {cfg : Cfg} {s : State} {c : Nat} {f : Frame} {x : Conn}

theorem mr_none (hx : s.conn c = none) : messageReceivedG pub cfg s c f = (s, .cont) := by
  unfold messageReceivedG; rw [hx]

theorem mr_preauth (hx : s.conn c = some x) (hak : x.ak = none) (hop : f.op.toNat ≠ OP_AUTH) :
    messageReceivedG pub cfg s c f = (errorClose s c, .cont) := by
  unfold messageReceivedG; rw [hx]; exact if_pos ⟨hak, hop⟩

theorem mr_read (hx : s.conn c = some x) (hpre : ¬(x.ak = none ∧ f.op.toNat ≠ OP_AUTH)) :
    messageReceivedG pub cfg s c f =
      match read f with
      | none => (closeT s c, .brk)
      | some (.error _) => (s, .crash)
      | some (.ok m) =>
        match m with
        | .error _ => (s, .crash)
        | .info _ _ => (s, .crash)
        | .auth ident digest =>
          if !x.registered then (s, .crash)
          else match cfg.store with
            | .sync tbl =>
              let r := match tbl ident with | some row => Lookup.row row | none => Lookup.missing
              ((authenticate cfg s c x ident digest r).1, .cont)
            | .async => (pauseReading (addPending s c ident digest) c, .brk)
        | .publish ident ch p =>
          if some ident ≠ x.ak then (errorClose s c, .cont)
          else if ch ∉ x.pubchans then (errorClose s c, .cont)
          else if !x.registered then (s, .crash)
          else (pub s c x ident ch p, .cont)
        | .subscribe _ ch =>
          let s1 := if ch ∈ x.subchans then s else errorClose s c
          if !x.registered then (s1, .crash)
          else (doSubscribe s1 c ch (decide (ch ∈ x.subchans)), .cont)
        | .unsubscribe _ ch =>
          if !x.registered then (s, .crash)
          else (doUnsubscribe s c ch, .cont) := by
  unfold messageReceivedG; rw [hx]; exact if_neg hpre

theorem past_preauth {m : Msg} (hm : read f = some (.ok m)) :
    ¬(x.ak = none ∧ f.op.toNat ≠ OP_AUTH) ↔ x.ak ≠ none ∨ msgOpcode m = OP_AUTH := by
  rw [read_op hm]
  exact Decidable.not_and_iff_not_or_not.trans (or_congr .rfl Decidable.not_not)

theorem mr_unknown (hx : s.conn c = some x) (hpre : ¬(x.ak = none ∧ f.op.toNat ≠ OP_AUTH)) (hm : read f = none) :
    messageReceivedG pub cfg s c f = (closeT s c, .brk) := by
  rw [mr_read hx hpre, hm]

theorem mr_crash (hx : s.conn c = some x) (hpre : ¬(x.ak = none ∧ f.op.toNat ≠ OP_AUTH))
    (hm : (∃ e, read f = some (.error e)) ∨ (∃ t, read f = some (.ok (.error t))) ∨ ∃ n r, read f = some (.ok (.info n r))) :
    messageReceivedG pub cfg s c f = (s, .crash) := by
  rw [mr_read hx hpre]
  rcases hm with ⟨_, hm⟩ | ⟨_, hm⟩ | ⟨_, _, hm⟩ <;> rw [hm]

theorem mr_auth {i d : Bytes} (hx : s.conn c = some x) (hm : read f = some (.ok (.auth i d))) :
    messageReceivedG pub cfg s c f =
      if !x.registered then (s, .crash)
      else match cfg.store with
        | .sync tbl => ((authenticate cfg s c x i d
            (match tbl i with | some row => Lookup.row row | none => Lookup.missing)).1, .cont)
        | .async => (pauseReading (addPending s c i d) c, .brk) := by
  rw [mr_read hx ((past_preauth hm).mpr (.inr rfl)), hm]

theorem mr_publish {i ch p : Bytes} (hx : s.conn c = some x) (hak : x.ak ≠ none)
    (hm : read f = some (.ok (.publish i ch p))) :
    messageReceivedG pub cfg s c f =
      if some i ≠ x.ak then (errorClose s c, .cont)
      else if ch ∉ x.pubchans then (errorClose s c, .cont)
      else if !x.registered then (s, .crash)
      else (pub s c x i ch p, .cont) := by
  rw [mr_read hx ((past_preauth hm).mpr (.inl hak)), hm]

theorem mr_subscribe {i ch : Bytes} (hx : s.conn c = some x) (hak : x.ak ≠ none)
    (hm : read f = some (.ok (.subscribe i ch))) :
    messageReceivedG pub cfg s c f =
      if !x.registered then (if ch ∈ x.subchans then s else errorClose s c, .crash)
      else (doSubscribe (if ch ∈ x.subchans then s else errorClose s c) c ch (decide (ch ∈ x.subchans)), .cont) := by
  rw [mr_read hx ((past_preauth hm).mpr (.inl hak)), hm]

theorem mr_unsubscribe {i ch : Bytes} (hx : s.conn c = some x) (hak : x.ak ≠ none)
    (hm : read f = some (.ok (.unsubscribe i ch))) :
    messageReceivedG pub cfg s c f =
      if !x.registered then (s, .crash) else (doUnsubscribe s c ch, .cont) := by
  rw [mr_read hx ((past_preauth hm).mpr (.inl hak)), hm]

theorem loop_wait {cfg : Cfg} {c : Nat} {s : State} {buf : Bytes} (h : header buf = .wait) :
    loop cfg c s buf = (s, buf, .cont) := by
  rw [loop]; split <;> simp_all

theorem loop_bad {cfg : Cfg} {c : Nat} {s : State} {buf : Bytes} {e : Err} (h : header buf = .bad e) :
    loop cfg c s buf = (closeT s c, buf, .cont) := by
  rw [loop]; split <;> simp_all

theorem loop_ok {cfg : Cfg} {c : Nat} {s : State} {buf : Bytes} {ml : Nat} {op : UInt8}
    (h : header buf = .ok ml op) :
    loop cfg c s buf =
      match (messageReceived cfg s c (popFrame buf ml op).1).2 with
      | .cont => loop cfg c (messageReceived cfg s c (popFrame buf ml op).1).1 (popFrame buf ml op).2
      | ctl => ((messageReceived cfg s c (popFrame buf ml op).1).1, (popFrame buf ml op).2, ctl) := by
  rw [loop]
  split
  · rename_i h'; rw [h] at h'; cases h'
  · rename_i h'; rw [h] at h'; cases h'
  · rename_i ml' op' h'
    rw [h] at h'; injection h' with h1 h2; subst h1; subst h2
    rfl

theorem loop_cont {cfg : Cfg} {c : Nat} {s : State} {buf : Bytes} {ml : Nat} {op : UInt8} (h : header buf = .ok ml op)
    (hc : (messageReceived cfg s c (popFrame buf ml op).1).2 = .cont) :
    loop cfg c s buf = loop cfg c (messageReceived cfg s c (popFrame buf ml op).1).1 (popFrame buf ml op).2 := by
  rw [loop_ok h, hc]

theorem loop_stop {cfg : Cfg} {c : Nat} {s : State} {buf : Bytes} {ml : Nat} {op : UInt8} (h : header buf = .ok ml op)
    (hc : (messageReceived cfg s c (popFrame buf ml op).1).2 ≠ .cont) :
    loop cfg c s buf = ((messageReceived cfg s c (popFrame buf ml op).1).1, (popFrame buf ml op).2,
      (messageReceived cfg s c (popFrame buf ml op).1).2) := by
  rw [loop_ok h]
  cases hm : (messageReceived cfg s c (popFrame buf ml op).1).2 with
  | cont => exact absurd hm hc
  | _ => rfl

theorem messageReceivedG_publish (cfg : Cfg) (s : State) (c : Nat) (f : Frame) :
    messageReceivedG publish cfg s c f = messageReceived cfg s c f := rfl

theorem loopG_publish (cfg : Cfg) (c : Nat) : ∀ (buf : Bytes) (s : State), loopG publish cfg c s buf = loop cfg c s buf := by
  intro buf s
  fun_induction loopG publish cfg c s buf with
  | case1 s buf hh => exact (loop_wait hh).symm
  | case2 s buf e hh => exact (loop_bad hh).symm
  | case3 s buf ml op hh r hr ih => rw [loop_cont hh hr]; exact ih
  | case4 s buf ml op hh r hr => exact (loop_stop hh hr).symm

def withSync (cfg : Cfg) (tbl : Bytes → Option Row) : Cfg := { cfg with store := .sync tbl }

theorem authOk_withSync (cfg : Cfg) (tbl : Bytes → Option Row) (x : Conn) (d : Bytes) (r : Lookup) :
    authOk (withSync cfg tbl) x d r = authOk cfg x d r := by
  cases r <;> rfl

theorem msg_store_irrelevant (cfg : Cfg) (tbl : Bytes → Option Row) (hs : cfg.store = .async) (s : State) (c : Nat)
    (f : Frame) (h : (messageReceived cfg s c f).2 ≠ .brk) :
    messageReceived (withSync cfg tbl) s c f = messageReceived cfg s c f := by
  show messageReceivedG publish (withSync cfg tbl) s c f = messageReceivedG publish cfg s c f
  cases hx : s.conn c with
  | none => rw [mr_none hx, mr_none hx]
  | some x =>
    by_cases hpre : x.ak = none ∧ f.op.toNat ≠ OP_AUTH
    · rw [mr_preauth hx hpre.1 hpre.2, mr_preauth hx hpre.1 hpre.2]
    · -- the configuration is consulted at an OP_AUTH only, and there an asynchronous store parks
      rw [mr_read hx hpre, mr_read hx hpre]
      match hm : read f with
      | some (.ok (.auth i d)) =>
        have h : (messageReceivedG publish cfg s c f).2 ≠ .brk := h
        rw [mr_auth hx hm, hs] at h
        cases hr : x.registered with
        | false => rfl
        | true => rw [hr] at h; exact absurd rfl h
      | none | some (.error _) | some (.ok (.error _)) | some (.ok (.info _ _)) | some (.ok (.publish _ _ _))
      | some (.ok (.subscribe _ _)) | some (.ok (.unsubscribe _ _)) => rfl

theorem loop_store_irrelevant (cfg : Cfg) (tbl : Bytes → Option Row) (hs : cfg.store = .async) (c : Nat) :
    ∀ (buf : Bytes) (s : State), (loop cfg c s buf).2.2 ≠ .brk → loop (withSync cfg tbl) c s buf = loop cfg c s buf := by
  intro buf s
  -- Lean derives the auxiliary lemmas of `loop`'s matcher where `fun_induction loop` is first used, and two modules that
  -- both derive them cannot be imported together: every other module that uses it has this one among its ancestors
  fun_induction loop cfg c s buf with
  | case1 s buf hh => intro _; exact loop_wait hh
  | case2 s buf e hh => intro _; exact loop_bad hh
  | case3 s buf ml op hh r hr ih =>
    intro h
    have hm := msg_store_irrelevant cfg tbl hs s c (popFrame buf ml op).1 (by rw [show _ = r.2 from rfl, hr]; decide)
    rw [loop_cont hh (hm ▸ hr), hm]; exact ih h
  | case4 s buf ml op hh r hr =>
    intro h
    have hm := msg_store_irrelevant cfg tbl hs s c (popFrame buf ml op).1 h
    rw [loop_stop hh (hm ▸ hr), hm]

end Hpfeeds.Broker
