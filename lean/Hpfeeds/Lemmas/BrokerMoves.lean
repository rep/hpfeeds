/-
  What one event can do to a connection record: the transport-side steps of Lemmas/BrokerEffect, the session-side steps a
  connection's own frames and its loss cause (`OwnStep`), and the OP_PUBLISH write another connection's publish causes
  (`RecStep`).  Every event but the passing of time moves every record by such steps and creates only fresh records
  (`moves_step`), so a property of single records, or a relation between a record and its successor, takes ONE case
  analysis over the kinds of step.
-/
import Hpfeeds.Lemmas.BrokerReg
namespace Hpfeeds.Broker
open Hpfeeds Extracted

inductive OwnStep (H : Bytes → Bytes) (t : Nat) : Conn → Conn → Prop
  | transport {x y : Conn} : TStep t x y → OwnStep H t x y
  | auth (x : Conn) (i d : Bytes) (row : Row) : H (x.nonce ++ row.secret) = d →
      OwnStep H t x { x with ak := some i, pubchans := row.pubchans, subchans := row.subchans,
                             authed := x.authed ++ [(i, d, row)] }
  | sub (x : Conn) (ch : Bytes) (ok : Bool) : x.registered = true → x.ak ≠ none →
      (ok = true ↔ ch ∈ x.subchans) → (ok = false → x.closing = true) →
      OwnStep H t x { x with
        active := addNew x.active ch
        granted := if ok = true ∧ ch ∉ x.granted then x.granted ++ [ch] else x.granted
        lastReq := (ch, true) :: x.lastReq }
  | unsub (x : Conn) (ch : Bytes) :
      OwnStep H t x { x with active := x.active.erase ch, lastReq := (ch, false) :: x.lastReq }
  | forget (x : Conn) : x.closing = true →
      OwnStep H t x { x with active := [], registered := false, lostAs := some x.ak }
  | gone (x : Conn) : OwnStep H t x { x with gone := true }

inductive RecStep (H : Bytes → Bytes) (t : Nat) : Conn → Conn → Prop
  | own {x y : Conn} : OwnStep H t x y → RecStep H t x y
  | pub (x : Conn) (f : Frame) : f.op.toNat = OP_PUBLISH → x.closing = false →
      RecStep H t x { x with out := x.out ++ [(t, .write f)] }

/-- the record `connection_made` creates -/
def fresh (cfg : Cfg) (t : Nat) (n : Bytes) : Conn :=
  { nonce := n, out := [(t, .write ⟨UInt8.ofNat OP_INFO, pack8 cfg.name ++ n⟩)] }

def Moves (cfg : Cfg) (r : Nat → Conn → Conn → Prop) (s s' : State) : Prop :=
  s'.now = s.now ∧
  (∀ d y, s.conn d = some y → ∃ y', s'.conn d = some y' ∧ Steps (r s.now) y y') ∧
  (∀ d y', s.conn d = none → s'.conn d = some y' → ∃ n, Steps (r s.now) (fresh cfg s.now n) y')

namespace Moves
variable {cfg : Cfg} {r : Nat → Conn → Conn → Prop} {s s' s'' : State}

theorem refl (s : State) : Moves cfg r s s :=
  ⟨rfl, fun d y hy => ⟨y, hy, .refl y⟩, fun d y' hd hy' => by rw [hd] at hy'; cases hy'⟩

theorem trans (h1 : Moves cfg r s s') (h2 : Moves cfg r s' s'') : Moves cfg r s s'' := by
  obtain ⟨n1, o1, f1⟩ := h1
  obtain ⟨n2, o2, f2⟩ := h2
  rw [n1] at o2 f2
  refine ⟨n2.trans n1, fun d y hy => ?_, fun d y'' hn hy'' => ?_⟩
  · obtain ⟨y', hy', m1⟩ := o1 d y hy
    obtain ⟨y'', hy'', m2⟩ := o2 d y' hy'
    exact ⟨y'', hy'', m1.trans m2⟩
  · cases hy' : s'.conn d with
    | none => exact f2 d y'' hy' hy''
    | some y' =>
      obtain ⟨n, m1⟩ := f1 d y' hn hy'
      obtain ⟨z, hz, m2⟩ := o2 d y' hy'
      rw [hz] at hy''; cases hy''
      exact ⟨n, m1.trans m2⟩

theorem mono {r' : Nat → Conn → Conn → Prop} (hr : ∀ t x y, r t x y → r' t x y) (h : Moves cfg r s s') :
    Moves cfg r' s s' :=
  ⟨h.1, fun d y hy => (h.2.1 d y hy).imp fun _ k => ⟨k.1, k.2.mono (hr _)⟩,
   fun d y' hn hy' => (h.2.2 d y' hn hy').imp fun _ k => k.mono (hr _)⟩

theorem allRec {I : Nat → Conn → Prop} (hI : ∀ d x y, r s.now x y → I d x → I d y)
    (hnew : ∀ d n, s.conn d = none → I d (fresh cfg s.now n))
    (m : Moves cfg r s s') (h : ∀ d y, s.conn d = some y → I d y) : ∀ d y, s'.conn d = some y → I d y := by
  intro d y' hy'
  cases hy : s.conn d with
  | none => obtain ⟨n, k⟩ := m.2.2 d y' hy hy'; exact k.lift (hI d) (hnew d n hy)
  | some y =>
    obtain ⟨z, hz, k⟩ := m.2.1 d y hy
    rw [hz] at hy'; cases hy'
    exact k.lift (hI d) (h d y hy)

theorem rel {R : Conn → Conn → Prop} (hr : ∀ a, R a a) (ht : ∀ a b c, R a b → R b c → R a c)
    (hs : ∀ a b, r s.now a b → R a b) (m : Moves cfg r s s') :
    ∀ d y, s.conn d = some y → ∃ y', s'.conn d = some y' ∧ R y y' :=
  fun d y hy => (m.2.1 d y hy).imp fun _ k => ⟨k.1, k.2.rel hr ht hs⟩

end Moves

theorem moves_at {cfg : Cfg} {r : Nat → Conn → Conn → Prop} {s s' : State} {c : Nat} {x y : Conn}
    (hx : s.conn c = some x) (hy : s'.conn c = some y) (ho : ∀ d, d ≠ c → s'.conn d = s.conn d)
    (hn : s'.now = s.now) (hs : Steps (r s.now) x y) : Moves cfg r s s' := by
  refine ⟨hn, fun d z hz => ?_, fun d z hd hz => ?_⟩
  · by_cases hd : d = c
    · subst hd; rw [hx] at hz; cases hz; exact ⟨y, hy, hs⟩
    · exact ⟨z, by rw [ho d hd]; exact hz, .refl z⟩
  · have hdc : d ≠ c := by rintro rfl; rw [hx] at hd; cases hd
    rw [ho d hdc, hd] at hz; cases hz

structure Own (cfg : Cfg) (c : Nat) (s s' : State) : Prop where
  moves : Moves cfg (OwnStep cfg.H) s s'
  others : ∀ d, d ≠ c → s'.conn d = s.conn d
  accepted : s'.accepted = s.accepted
  reg : Reg s → Reg s'

theorem Own.toMoves {cfg : Cfg} {c : Nat} {s s' : State} (m : Own cfg c s s') : Moves cfg (RecStep cfg.H) s s' :=
  m.moves.mono fun _ _ _ => .own

theorem Own.at {cfg : Cfg} {s s' : State} {c : Nat} {x y : Conn}
    (hx : s.conn c = some x) (hy : s'.conn c = some y) (ho : ∀ d, d ≠ c → s'.conn d = s.conn d)
    (hn : s'.now = s.now) (hs : Steps (OwnStep cfg.H s.now) x y) (ha : s'.accepted = s.accepted)
    (hr : Reg s → Reg s') : Own cfg c s s' :=
  ⟨moves_at hx hy ho hn hs, ho, ha, hr⟩

section
variable {cfg : Cfg} {c : Nat} {s : State}

theorem own_tupd {s' : State} (q : TUpd c s s') : Own cfg c s s' :=
  ⟨⟨q.frame.1, fun _ _ hy => (q.fwd hy).imp fun _ k => ⟨k.1, k.2.mono fun _ _ => .transport⟩,
    fun d y' hd hy' => by obtain ⟨y, hy, _⟩ := q.back hy'; rw [hd] at hy; cases hy⟩,
   q.frame.2.2, q.frame.2.1, reg_tupd q⟩

theorem own_setAuth {x : Conn} (i d : Bytes) (row : Row) (hx : s.conn c = some x)
    (hd : cfg.H (x.nonce ++ row.secret) = d) : Own cfg c s (setAuth s c i d row) :=
  .at hx (by simp [setAuth, hx]) (fun d hd => by simp [setAuth, hx, hd]) (by simp [setAuth, hx])
    (.single (.auth x i d row hd)) (by simp only [setAuth, hx]; rfl) (reg_setAuth c i d row)

theorem own_doSubscribe {x : Conn} (ch : Bytes) (ok : Bool) (hx : s.conn c = some x) (hr : x.registered = true)
    (hak : x.ak ≠ none) (hok : ok = true ↔ ch ∈ x.subchans) (hcl : ok = false → x.closing = true) :
    Own cfg c s (doSubscribe s c ch ok) :=
  .at hx (doSubscribe_conn ch ok hx) (fun _ => doSubscribe_conn_ne ch ok) (subscribe_frame s c ch).1
    (.single (.sub x ch ok hr hak hok hcl)) (subscribe_frame s c ch).2 (reg_doSubscribe c ch ok x hx hr)

theorem own_doUnsubscribe {x : Conn} (ch : Bytes) (hx : s.conn c = some x) : Own cfg c s (doUnsubscribe s c ch) :=
  .at hx (doUnsubscribe_conn ch hx) (fun _ => doUnsubscribe_conn_ne ch) (unsubscribe_frame s c ch).1
    (.single (.unsub x ch)) (unsubscribe_frame s c ch).2 (reg_doUnsubscribe c ch)

theorem Conn.forgotten_steps {H : Bytes → Bytes} {t : Nat} {x : Conn} (hc : x.closing = true) :
    Steps (OwnStep H t) x x.forgotten := by
  unfold Conn.forgotten
  split
  · exact .single (.forget x hc)
  · exact .refl x

/-- the `connection_lost` that `Server.publish` forces on a subscriber it finds closing -/
theorem own_connectionLost {x : Conn} (hx : s.conn c = some x) (hc : x.closing = true) :
    Own cfg c s (connectionLost s c) :=
  .at hx (connectionLost_conn hx) (fun _ => connectionLost_conn_ne) (connectionLost_frame s c).1
    (Conn.forgotten_steps hc) (connectionLost_frame s c).2 (reg_connectionLost c)

theorem own_lostConn {x : Conn} (hx : s.conn c = some x) : Own cfg c s (lostConn s c) := by
  have hf := connectionLost_frame s c
  have q := (tupd_peerClose (connectionLost s c) c).frame
  -- The model unregisters first and closes second.  The two touch disjoint fields, and read the other way round
  -- (close, `forget`, `gone`) the record is a closing one when it is forgotten, as `forget` demands.
  refine .at hx (y := { (x.peerClosed s.now).forgotten with gone := true }) ?_ (fun d hd => ?_) (q.1.trans hf.1)
    ((((x.peerClosed_spec s.now).mono fun _ _ => .transport).trans (Conn.forgotten_steps rfl)).tail (.gone _))
    (q.2.1.trans hf.2) (reg_lostConn c x hx)
  · rw [lostConn, markGone, upd_conn_self (peerClose_conn_eq (connectionLost_conn hx)), hf.1]
    cases hr : x.registered <;> simp [Conn.forgotten, Conn.peerClosed, hr]
  · rw [lostConn, markGone, upd_conn, if_neg hd, q.2.2 d hd, connectionLost_conn_ne hd]

theorem own_addConn (n : Bytes) (hc : s.conn c = none) : Own cfg c s (addConn cfg s c n) := by
  refine ⟨⟨rfl, fun d y hy => ?_, fun d y' hd hy' => ?_⟩, fun d hd => by simp [addConn, hd], rfl, reg_addConn c n hc⟩
  · have hdc : d ≠ c := by rintro rfl; rw [hc] at hy; cases hy
    exact ⟨y, by simp [addConn, hdc, hy], .refl y⟩
  · by_cases hdc : d = c
    · simp only [addConn, hdc, if_true, Option.some.injEq] at hy'
      exact ⟨n, hy' ▸ .refl _⟩
    · simp [addConn, hdc, hd] at hy'

theorem presAt_ofOwn {P : State → Prop} (own : ∀ s s', Own cfg c s s' → P s → P s')
    (publish : PubPres publish c P) : PresAt cfg c P :=
  presAt_ofTUpd
    (transport := fun _ _ q => own _ _ (own_tupd q))
    (doSubscribe := fun _ ch ok _ hx hr hak hok hcl => own _ _ (own_doSubscribe ch ok hx hr hak hok hcl))
    (doUnsubscribe := fun _ ch _ hx _ _ => own _ _ (own_doUnsubscribe ch hx))
    (setAuth := fun _ i d row _ hx hd => own _ _ (own_setAuth i d row hx hd))
    (publish := publish)
    (addConn := fun _ n hc => own _ _ (own_addConn n hc))
    (lostConn := fun _ _ hx _ => own _ _ (own_lostConn hx))

theorem moves_deliverF (F : Nat → Bool) {f : Frame} (hf : f.op.toNat = OP_PUBLISH) (d : Nat) :
    Moves cfg (RecStep cfg.H) s (deliverF F f s d) := by
  fun_cases deliverF F f s d
  · exact .refl s
  · rename_i x hx hc
    exact (own_connectionLost hx hc).toMoves
  · exact (own_tupd (c := d) (tupd_closeT s d)).toMoves
  · rename_i x hx hc _
    exact moves_at hx (logAct_conn_self hx) (fun d hd => by simp [logAct, hd]) rfl
      (.single (.pub x f hf (by simpa using hc)))

theorem moves_publishF (F : Nat → Bool) (x : Conn) (i ch p : Bytes) :
    Moves cfg (RecStep cfg.H) s (publishF F s c x i ch p) := by
  obtain ⟨hn, ho, hf⟩ := foldl_pres (P := Moves cfg (RecStep cfg.H) s)
    (fun _ d h => h.trans (moves_deliverF F (pubFrame_op i ch p) d)) (s.subs ch).eraseDups (.refl s)
  exact ⟨hn, ho, hf⟩

theorem moves_publish (x : Conn) (i ch p : Bytes) : Moves cfg (RecStep cfg.H) s (publish s c x i ch p) :=
  publishF_none ▸ moves_publishF (fun _ => false) x i ch p

end

theorem regPres (cfg : Cfg) : Pres cfg Reg where
  prim := fun c => presAt_ofOwn (fun _ _ m => m.reg) fun _ x i ch p _ _ _ _ => reg_publish c x i ch p
  tick := fun s _ h => reg_congr (s := s) rfl rfl rfl h

theorem reg_runF (cfg : Cfg) (es : List (Store × List Nat × Event)) : Reg (runF cfg es) :=
  pres_runF cfg (fun st => regPres (cfg.withStore st)) (fun F c _ x i ch p _ _ _ _ h => reg_publishF F c x i ch p h)
    reg_init es

theorem reg_runS (cfg : Cfg) (es : List (Store × Event)) : Reg (runS cfg es) :=
  runS_eq_runF cfg es ▸ reg_runF cfg _

theorem reg_run (cfg : Cfg) (es : List Event) : Reg (run cfg es) :=
  run_eq_runS cfg es ▸ reg_runS cfg _

theorem moves_stepF (F : Nat → Bool) (cfg : Cfg) (s : State) (e : Event) (he : ∀ ms, e ≠ .advance ms) :
    Moves cfg (RecStep cfg.H) s (stepF F cfg s e) :=
  -- "reached from `s` by moves" is itself a predicate every primitive preserves, so the walk over `stepG` serves again
  pres_stepG_at (P := Moves cfg (RecStep cfg.H) s) s e
    (fun _ _ => presAt_ofOwn (fun _ _ m h => h.trans m.toMoves)
      (fun _ x i ch p _ _ _ _ h => h.trans (moves_publish x i ch p)))
    (fun _ _ _ x i ch p _ _ _ _ h => h.trans (moves_publishF F x i ch p))
    (fun ms h => absurd h (he ms)) (.refl s)

theorem moves_step (cfg : Cfg) (s : State) (e : Event) (he : ∀ ms, e ≠ .advance ms) :
    Moves cfg (RecStep cfg.H) s (step cfg s e) :=
  stepF_none cfg s e ▸ moves_stepF (fun _ => false) cfg s e he

section
variable {cfg : Cfg} {I : Conn → Prop} (hI : ∀ t x y, RecStep cfg.H t x y → I x → I y)
  (hnew : ∀ t n, I (fresh cfg t n))
include hI hnew

theorem allRec_stepF (F : Nat → Bool) (st : Store) (s : State) (e : Event) (h : ∀ d y, s.conn d = some y → I y) :
    ∀ d y, (stepF F (cfg.withStore st) s e).conn d = some y → I y := by
  by_cases he : ∃ ms, e = .advance ms
  · obtain ⟨ms, rfl⟩ := he; exact h
  · have m : Moves cfg (RecStep cfg.H) s (stepF F (cfg.withStore st) s e) :=
      moves_stepF F (cfg.withStore st) s e fun ms h' => he ⟨ms, h'⟩
    exact m.allRec (fun _ => hI _) (fun _ n _ => hnew _ n) h

theorem allRec_runF (es : List (Store × List Nat × Event)) : ∀ d y, (runF cfg es).conn d = some y → I y :=
  foldl_pres (P := fun s : State => ∀ d y, s.conn d = some y → I y)
    (fun s e h => allRec_stepF hI hnew _ e.1 s e.2.2 h) es (fun d y h => by simp [init] at h)

theorem allRec_runS (es : List (Store × Event)) : ∀ d y, (runS cfg es).conn d = some y → I y :=
  runS_eq_runF cfg es ▸ allRec_runF hI hnew _

end

end Hpfeeds.Broker
