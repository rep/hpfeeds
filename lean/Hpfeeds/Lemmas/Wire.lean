/-
  The wire model's own theory.  Three ideas carry it:
  * `be32` / `u32` are the digits of a number in base 256 and back (existence `u32_be32`, uniqueness `u32_inj`);
  * `header` = the checks on the five header bytes (`announced`, which does not look at what follows them)
    + "has the announced frame arrived" (`header_cons`; it and what else `drain`'s termination needs stand
    next to `drain` in Model/Wire.lean), and it accepts exactly the buffers that start with the encoding of a
    well-formed frame (`header_enc_append`, `header_ok_spec`);
  * `drain` is THE parse of a buffer into encoded well-formed frames and a rest on which `header` does not
    say `.ok` (`drain_spec`, `drain_frames`); appending bytes (`drain_append`) and chunking
    (`feedAll_eq_drain`) are read off that.
-/
import Hpfeeds.Model.Wire
namespace Hpfeeds
open Extracted

theorem validUtf8_append {a b : Bytes} (ha : validUtf8 a = true) (hb : validUtf8 b = true) :
    validUtf8 (a ++ b) = true := by
  simp only [validUtf8, ByteArray.validateUTF8_eq_true_iff] at ha hb ⊢
  have e : ByteArray.mk (a ++ b).toArray = ⟨a.toArray⟩ ++ ⟨b.toArray⟩ := by
    rw [ByteArray.ext_iff, ByteArray.data_append, List.append_toArray]
  exact e ▸ ha.append hb

theorem validUtf8_flatten {l : List Bytes} (h : ∀ x ∈ l, validUtf8 x = true) :
    validUtf8 l.flatten = true := by
  induction l with
  | nil => decide
  | cons x l ih =>
    exact validUtf8_append (h x (List.mem_cons_self ..)) (ih fun y hy => h y (List.mem_cons_of_mem _ hy))

theorem u32_lt (b0 b1 b2 b3 : UInt8) : u32 b0 b1 b2 b3 < 4294967296 := by
  have := b0.toNat_lt; have := b1.toNat_lt; have := b2.toNat_lt; have := b3.toNat_lt
  simp only [u32]; omega

theorem u32_be32 (n : Nat) (h : n < 4294967296) :
    u32 (UInt8.ofNat (n / 16777216 % 256)) (UInt8.ofNat (n / 65536 % 256))
        (UInt8.ofNat (n / 256 % 256)) (UInt8.ofNat (n % 256)) = n := by
  simp only [u32, UInt8.toNat_ofNat', Nat.reducePow, Nat.mod_mod]
  -- `Nat.mod_mul` peels the base-256 digits off `n % 256 ^ 4`; what is left is linear in the four digits
  -- (`omega` on the goal itself has to find them through the divisions, which is slow)
  have e : n % (256 * (256 * (256 * 256))) = n := Nat.mod_eq_of_lt h
  rw [Nat.mod_mul, Nat.mod_mul, Nat.mod_mul, Nat.div_div_eq_div_mul, Nat.div_div_eq_div_mul] at e
  simp only [Nat.reduceMul] at e
  generalize n / 16777216 % 256 = x3, n / 65536 % 256 = x2, n / 256 % 256 = x1, n % 256 = x0 at e ⊢
  omega

theorem u32_horner (b0 b1 b2 b3 : UInt8) :
    u32 b0 b1 b2 b3 = ((b0.toNat * 256 + b1.toNat) * 256 + b2.toNat) * 256 + b3.toNat := by
  simp only [u32, Nat.add_mul, Nat.mul_assoc]

theorem u32_inj {a0 a1 a2 a3 b0 b1 b2 b3 : UInt8} (h : u32 a0 a1 a2 a3 = u32 b0 b1 b2 b3) :
    a0 = b0 ∧ a1 = b1 ∧ a2 = b2 ∧ a3 = b3 := by
  -- equal numbers have the same last digit and the same rest; three times
  have digit : ∀ {x y : Nat} {a b : UInt8}, x * 256 + a.toNat = y * 256 + b.toNat → x = y ∧ a = b := by
    intro x y a b h
    have := a.toNat_lt
    have := b.toNat_lt
    rw [← UInt8.toNat_inj]
    omega
  rw [u32_horner, u32_horner] at h
  obtain ⟨h, e3⟩ := digit h
  obtain ⟨h, e2⟩ := digit h
  obtain ⟨h, e1⟩ := digit h
  exact ⟨UInt8.toNat_inj.mp h, e1, e2, e3⟩

theorem be32_u32 (b0 b1 b2 b3 : UInt8) : be32 (u32 b0 b1 b2 b3) = [b0, b1, b2, b3] := by
  obtain ⟨h0, h1, h2, h3⟩ := u32_inj (u32_be32 _ (u32_lt b0 b1 b2 b3))
  rw [be32, h0, h1, h2, h3]

theorem toSigned_of_lt {n : Nat} (h : n < 2147483648) : toSigned n = (n : Int) := if_pos h

theorem be32_length (n : Nat) : (be32 n).length = 4 := rfl

theorem enc_length (f : Frame) : (enc f).length = 5 + f.body.length := by
  simp only [enc, List.length_append, be32_length, List.length_cons]; omega

theorem enc_ne_nil (f : Frame) : enc f ≠ [] :=
  fun h => nomatch h

theorem take4_enc (f : Frame) : (enc f).take 4 = be32 (enc f).length := by
  rw [enc_length]; rfl

/-- an obligation on the extracted table -/
theorem sizes_le : ∀ p ∈ SIZES, p.2 ≤ 5 + MAXBUF := by decide

theorem limit_le (op : Nat) : limit op ≤ 5 + MAXBUF := by
  unfold limit
  split
  · next n h =>
    obtain ⟨l₁, l₂, e, -⟩ := List.lookup_eq_some_iff.mp h
    exact sizes_le (op, n) (e ▸ List.mem_append_right _ (List.mem_cons_self ..))
  · omega

theorem limit_lt (op : Nat) : limit op < 2147483648 :=
  Nat.lt_of_le_of_lt (limit_le op) (by decide)

theorem header_short {a : Bytes} (h : a.length < 5) : header a = .wait :=
  Decidable.by_contra fun hn => by
    obtain ⟨_, _, _, _, _, _, rfl⟩ := header_long rfl hn
    exact absurd h (by simp)

theorem header_nil : header [] = .wait := rfl

theorem announced_error_iff {n : Nat} {op : UInt8} :
    (∃ e, announced n op = .error e) ↔
      (op.toNat < OP_ERROR ∨ op.toNat > OP_UNSUBSCRIBE) ∨
      toSigned n > (limit op.toNat : Int) ∨ toSigned n < 5 := by
  -- an exception is raised exactly when no length is announced
  have : (∃ e, announced n op = .error e) ↔ ∀ ml, ¬announced n op = .ok ml := by
    cases announced n op <;> simp
  simp only [this, announced_eq_ok]
  exact ⟨fun h => Decidable.by_contra fun hn => h (toSigned n).toNat (by omega), fun h ml => by omega⟩

theorem header_append_bad {a b : Bytes} {e : Err} (h : header a = .bad e) :
    header (a ++ b) = .bad e := by
  obtain ⟨_, _, _, _, _, _, rfl⟩ := header_long h nofun
  exact header_eq.mpr (header_eq.mp h)

theorem wait_bounded {r : Bytes} (h : header r = .wait) : r.length < 5 + MAXBUF := by
  match r, h with
  | _ :: _ :: _ :: _ :: o :: t, h =>
    obtain ⟨ml, ha, hl⟩ := header_eq.mp h
    have := (announced_eq_ok.mp ha).2.2.2.1
    have := limit_le o.toNat
    simp only [List.length_cons]; omega
  | [], _ | [_], _ | [_,_], _ | [_,_,_], _ | [_,_,_,_], _ => simp [MAXBUF]

/-- a frame the decoder accepts -/
def Frame.WF (f : Frame) : Prop :=
  OP_ERROR ≤ f.op.toNat ∧ f.op.toNat ≤ OP_UNSUBSCRIBE ∧ 5 + f.body.length ≤ limit f.op.toNat

instance (f : Frame) : Decidable f.WF := by unfold Frame.WF; exact inferInstance

theorem header_enc_append (f : Frame) (rest : Bytes) (hf : f.WF) :
    header (enc f ++ rest) = .ok (5 + f.body.length) f.op := by
  obtain ⟨h0, h1, h2⟩ := hf
  have hl := limit_lt f.op.toNat
  simp only [enc, be32, List.cons_append, List.nil_append]
  refine header_eq.mpr ⟨?_, by rw [List.length_append]; omega, rfl⟩
  rw [u32_be32 _ (by omega), announced_eq_ok, toSigned_of_lt (by omega)]
  exact ⟨h0, h1, by omega, h2, rfl⟩

theorem popFrame_cons (b0 b1 b2 b3 o op : UInt8) (t : Bytes) (k : Nat) :
    popFrame (b0 :: b1 :: b2 :: b3 :: o :: t) (k + 5) op = (⟨op, t.take k⟩, t.drop k) := rfl

theorem popFrame_enc_append (f : Frame) (rest : Bytes) :
    popFrame (enc f ++ rest) (5 + f.body.length) f.op = (f, rest) := by
  simp only [enc, be32, List.cons_append, List.nil_append]
  rw [Nat.add_comm, popFrame_cons, List.take_left' rfl, List.drop_left' rfl]

theorem header_enc (f : Frame) (hf : f.WF) : header (enc f) = .ok (5 + f.body.length) f.op :=
  List.append_nil (enc f) ▸ header_enc_append f [] hf

theorem popFrame_enc (f : Frame) : popFrame (enc f) (5 + f.body.length) f.op = (f, []) :=
  List.append_nil (enc f) ▸ popFrame_enc_append f []

theorem header_ok_spec {buf : Bytes} {ml : Nat} {op : UInt8} (h : header buf = .ok ml op) :
    (popFrame buf ml op).1.WF ∧ enc (popFrame buf ml op).1 ++ (popFrame buf ml op).2 = buf ∧
    (enc (popFrame buf ml op).1).length = ml := by
  obtain ⟨b0, b1, b2, b3, o, t, rfl⟩ := header_long h nofun
  obtain ⟨ha, hl, rfl⟩ := header_eq.mp h
  obtain ⟨h0, h1, h5, hlim, hs⟩ := announced_eq_ok.mp ha
  have hu : u32 b0 b1 b2 b3 = ml := by
    have := u32_lt b0 b1 b2 b3
    unfold toSigned at hs; split at hs <;> omega
  obtain ⟨k, rfl⟩ := Nat.exists_eq_add_of_le' h5
  have hb : 5 + (t.take k).length = k + 5 := by
    rw [List.length_take_of_le (Nat.le_of_add_le_add_right hl), Nat.add_comm]
  rw [popFrame_cons, enc_length, enc]
  refine ⟨⟨h0, h1, Nat.le_trans (Nat.le_of_eq hb) hlim⟩, ?_, hb⟩
  show be32 (5 + (t.take k).length) ++ o :: t.take k ++ t.drop k = _
  rw [hb, ← hu, be32_u32]
  simp only [List.cons_append, List.nil_append, List.take_append_drop]

theorem popFrame_wf {buf : Bytes} {ml : Nat} {op : UInt8} (h : header buf = .ok ml op) :
    (popFrame buf ml op).1.WF :=
  (header_ok_spec h).1

theorem enc_popFrame {buf : Bytes} {ml : Nat} {op : UInt8} (h : header buf = .ok ml op) :
    enc (popFrame buf ml op).1 ++ (popFrame buf ml op).2 = buf :=
  (header_ok_spec h).2.1

theorem header_append_ok {a b : Bytes} {ml : Nat} {op : UInt8} (h : header a = .ok ml op) :
    header (a ++ b) = .ok ml op := by
  obtain ⟨hf, he, hl⟩ := header_ok_spec h
  rw [← he, List.append_assoc, header_enc_append _ _ hf, ← enc_length, hl]
  rfl

theorem popFrame_append_ok {a b : Bytes} {ml : Nat} {op : UInt8} (h : header a = .ok ml op) :
    popFrame (a ++ b) ml op = ((popFrame a ml op).1, (popFrame a ml op).2 ++ b) := by
  have hk := header_ok h
  simp only [popFrame]
  rw [List.drop_append_of_le_length hk.2, List.drop_append_of_le_length (by omega),
    List.take_append_of_le_length (by simp; omega)]

theorem header_prefix_wait (f : Frame) (hf : f.WF) (u v : Bytes) (huv : u ++ v = enc f) (hv : v ≠ []) :
    header u = .wait := by
  have hlen : u.length + v.length = 5 + f.body.length := by
    rw [← List.length_append, huv, enc_length]
  have hvl : 0 < v.length := List.length_pos_iff.mpr hv
  have hh := header_enc f hf
  rw [← huv] at hh
  cases hu : header u with
  | wait => rfl
  | bad e => rw [header_append_bad hu] at hh; cases hh
  | ok ml op =>
    rw [header_append_ok hu] at hh
    cases hh
    have := (header_ok hu).2
    omega

theorem drain_wait {buf : Bytes} (h : header buf = .wait) : drain buf = ([], buf, none) := by
  rw [drain]; split <;> simp_all

theorem drain_bad {buf : Bytes} {e : Err} (h : header buf = .bad e) : drain buf = ([], buf, some e) := by
  rw [drain]; split <;> simp_all

theorem drain_ok {buf : Bytes} {ml : Nat} {op : UInt8} (h : header buf = .ok ml op) :
    drain buf = ((popFrame buf ml op).1 :: (drain (popFrame buf ml op).2).1,
      (drain (popFrame buf ml op).2).2.1, (drain (popFrame buf ml op).2).2.2) := by
  rw [drain]; split
  · simp_all
  · simp_all
  · next ml' op' h' => cases h.symm.trans h'; rfl

theorem drain_enc_append (f : Frame) (rest : Bytes) (hf : f.WF) :
    drain (enc f ++ rest) = (f :: (drain rest).1, (drain rest).2.1, (drain rest).2.2) := by
  rw [drain_ok (header_enc_append f rest hf), popFrame_enc_append]

theorem drain_enc (f : Frame) (hf : f.WF) : drain (enc f) = ([f], [], none) := by
  have h := drain_enc_append f [] hf
  rwa [List.append_nil, drain_wait header_nil] at h

theorem drain_spec (buf : Bytes) :
    buf = (drain buf).1.flatMap enc ++ (drain buf).2.1 ∧ (∀ f ∈ (drain buf).1, f.WF) ∧
    (match (drain buf).2.2 with
     | none => header (drain buf).2.1 = .wait
     | some e => header (drain buf).2.1 = .bad e) := by
  fun_induction drain buf with
  | case1 buf h => exact ⟨rfl, nofun, h⟩
  | case2 buf e h => exact ⟨rfl, nofun, h⟩
  | case3 buf ml op h r ih =>
    obtain ⟨hf, he, -⟩ := header_ok_spec h
    obtain ⟨i1, i2, i3⟩ := ih
    exact ⟨by rw [List.flatMap_cons, List.append_assoc, ← i1]; exact he.symm,
      List.forall_mem_cons.mpr ⟨hf, i2⟩, i3⟩

theorem drain_frames (fs : List Frame) (t : Bytes) (hf : ∀ f ∈ fs, f.WF) :
    drain (fs.flatMap enc ++ t) = (fs ++ (drain t).1, (drain t).2.1, (drain t).2.2) := by
  induction fs with
  | nil => rfl
  | cons f fs ih =>
    obtain ⟨h1, h2⟩ := List.forall_mem_cons.mp hf
    rw [List.flatMap_cons, List.append_assoc, drain_enc_append f _ h1, ih h2]; rfl

theorem drain_frames_wait {fs : List Frame} {t : Bytes} (hf : ∀ f ∈ fs, f.WF) (ht : header t = .wait) :
    drain (fs.flatMap enc ++ t) = (fs, t, none) := by
  rw [drain_frames fs t hf, drain_wait ht, List.append_nil]

theorem drain_append (a b : Bytes) :
    drain (a ++ b) = ((drain a).1 ++ (drain ((drain a).2.1 ++ b)).1,
                      (drain ((drain a).2.1 ++ b)).2.1, (drain ((drain a).2.1 ++ b)).2.2) := by
  obtain ⟨h1, h2, -⟩ := drain_spec a
  generalize drain a = d at h1 h2 ⊢
  rw [h1, List.append_assoc, drain_frames _ _ h2]

theorem drain_rejected {r : Bytes} {e : Err} (h : header r = .bad e) (b : Bytes) :
    drain (r ++ b) = ([], r ++ b, some e) :=
  drain_bad (header_append_bad h)

theorem feedAll_eq_drain (buf : Bytes) (cs : List Bytes) (hb : header buf = .wait) :
    (feedAll buf cs).1 = (drain (buf ++ cs.flatten)).1 ∧
    (feedAll buf cs).2.2 = (drain (buf ++ cs.flatten)).2.2 ∧
    ((feedAll buf cs).2.2 = none → (feedAll buf cs).2.1 = (drain (buf ++ cs.flatten)).2.1) := by
  induction cs generalizing buf with
  | nil => rw [List.flatten_nil, List.append_nil, drain_wait hb]; exact ⟨rfl, rfl, fun _ => rfl⟩
  | cons c cs ih =>
    rw [List.flatten_cons, ← List.append_assoc, drain_append, feedAll]
    have hs := (drain_spec (buf ++ c)).2.2
    cases he : (drain (buf ++ c)).2.2 with
    | some e =>
      rw [he] at hs
      simp only [drain_rejected hs, List.append_nil, reduceCtorEq, false_implies, and_self]
    | none =>
      rw [he] at hs
      obtain ⟨i1, i2, i3⟩ := ih _ hs
      exact ⟨congrArg ((drain (buf ++ c)).1 ++ ·) i1, i2, i3⟩

theorem strunpack8_pack (x rest : Bytes) (hx : x.length ≤ 255) (hv : validUtf8 x = true) :
    strunpack8 (UInt8.ofNat x.length :: (x ++ rest)) = .ok (x, rest) := by
  have : (UInt8.ofNat x.length).toNat = x.length := by
    simp only [UInt8.toNat_ofNat']; omega
  simp only [strunpack8, this, List.take_left', List.drop_left', hv, if_true]

theorem strpack8_eq (x : Bytes) (hx : x.length ≤ 255) : strpack8 x = some (UInt8.ofNat x.length :: x) :=
  if_pos (by omega)

def msgOpcode : Msg → Nat
  | .error _ => OP_ERROR | .info _ _ => OP_INFO | .auth _ _ => OP_AUTH
  | .publish _ _ _ => OP_PUBLISH | .subscribe _ _ => OP_SUBSCRIBE | .unsubscribe _ _ => OP_UNSUBSCRIBE

theorem bind_eq_ok {ε α β : Type} {x : Except ε α} {g : α → Except ε β} {b : β} (h : x >>= g = .ok b) :
    ∃ a, x = .ok a ∧ g a = .ok b := by
  cases x with
  | error e => cases h
  | ok a => exact ⟨a, rfl, h⟩

theorem read_op {f : Frame} {m : Msg} (h : read f = some (.ok m)) : f.op.toNat = msgOpcode m := by
  unfold read at h
  -- whichever branch is taken, its `do` block can only end in its own constructor
  -- (`by_cases`, not `split at h`, which is slow on this chain)
  by_cases h0 : f.op.toNat = OP_ERROR
  · rw [if_pos h0] at h
    obtain ⟨_, -, e⟩ := bind_eq_ok (Option.some.inj h)
    cases e; exact h0
  by_cases h1 : f.op.toNat = OP_INFO
  · rw [if_neg h0, if_pos h1] at h
    obtain ⟨⟨_, _⟩, -, e⟩ := bind_eq_ok (Option.some.inj h)
    cases e; exact h1
  by_cases h2 : f.op.toNat = OP_AUTH
  · rw [if_neg h0, if_neg h1, if_pos h2] at h
    obtain ⟨⟨_, _⟩, -, e⟩ := bind_eq_ok (Option.some.inj h)
    cases e; exact h2
  by_cases h3 : f.op.toNat = OP_PUBLISH
  · rw [if_neg h0, if_neg h1, if_neg h2, if_pos h3] at h
    obtain ⟨⟨_, _⟩, -, e⟩ := bind_eq_ok (Option.some.inj h)
    obtain ⟨⟨_, _⟩, -, e⟩ := bind_eq_ok e
    cases e; exact h3
  by_cases h4 : f.op.toNat = OP_SUBSCRIBE
  · rw [if_neg h0, if_neg h1, if_neg h2, if_neg h3, if_pos h4] at h
    obtain ⟨⟨_, _⟩, -, e⟩ := bind_eq_ok (Option.some.inj h)
    obtain ⟨_, -, e⟩ := bind_eq_ok e
    cases e; exact h4
  by_cases h5 : f.op.toNat = OP_UNSUBSCRIBE
  · rw [if_neg h0, if_neg h1, if_neg h2, if_neg h3, if_neg h4, if_pos h5] at h
    obtain ⟨⟨_, _⟩, -, e⟩ := bind_eq_ok (Option.some.inj h)
    obtain ⟨_, -, e⟩ := bind_eq_ok e
    cases e; exact h5
  · rw [if_neg h0, if_neg h1, if_neg h2, if_neg h3, if_neg h4, if_neg h5] at h
    cases h

theorem read_eq_none {f : Frame} : read f = none ↔ OP_UNSUBSCRIBE < f.op.toNat := by
  unfold read
  generalize f.op.toNat = k
  -- the six opcodes are exactly `0 … OP_UNSUBSCRIBE`: for a numeral the chain of `if`s evaluates
  match k with
  | 0 | 1 | 2 | 3 | 4 | 5 => exact ⟨nofun, fun h => absurd h (by decide)⟩
  | k + 6 => exact ⟨fun _ => Nat.le_add_left 6 k, fun _ => rfl⟩

end Hpfeeds
