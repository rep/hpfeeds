/-
  What is true of the session side of every single record, in every reachable state: the first write (`InfoFirst`),
  authentication (`AuthOK`), the last request (`LastOK`) and "unregistered ⇒ closing" (`UnregClosing`), each by one case
  analysis over `RecStep`.  `RecipAuth` (every recipient in the accepted log is authenticated) is about the log and the
  records together and goes through `Pres`.
-/
import Hpfeeds.Lemmas.BrokerDeliv
import Hpfeeds.Lemmas.BrokerMono
namespace Hpfeeds.Broker
open Hpfeeds Extracted

def InfoFirst (cfg : Cfg) (x : Conn) : Prop :=
  ∃ t rest, x.out = (t, .write ⟨UInt8.ofNat OP_INFO, pack8 cfg.name ++ x.nonce⟩) :: rest

theorem infoFirst_step (cfg : Cfg) {t : Nat} {x y : Conn} (h : RecStep cfg.H t x y) :
    InfoFirst cfg x → InfoFirst cfg y := by
  rintro ⟨t, rest, e⟩
  obtain ⟨extra, he⟩ := h.connMono.out
  exact ⟨t, rest ++ extra, by rw [← he, e, h.connMono.nonce]; rfl⟩

theorem infoFirst_fresh (cfg : Cfg) (t : Nat) (n : Bytes) : InfoFirst cfg (fresh cfg t n) := ⟨t, [], rfl⟩

structure AuthOK (cfg : Cfg) (x : Conn) : Prop where
  pre : x.ak = none → x.active = [] ∧ x.granted = [] ∧ x.authed = [] ∧ x.pubchans = [] ∧ x.subchans = []
  post : ∀ i, x.ak = some i → ∃ d row, x.authed.getLast? = some (i, d, row) ∧
    x.pubchans = row.pubchans ∧ x.subchans = row.subchans
  digests : ∀ e ∈ x.authed, cfg.H (x.nonce ++ e.2.2.secret) = e.2.1

def AuthInv (cfg : Cfg) (s : State) : Prop := ∀ c x, s.conn c = some x → AuthOK cfg x

theorem RecStep.authOK {cfg : Cfg} {t : Nat} {x y : Conn} (h : RecStep cfg.H t x y) (k : AuthOK cfg x) :
    AuthOK cfg y := by
  -- only `auth` authenticates, and `sub` happens to authenticated records only
  cases h with
  | pub => exact ⟨k.pre, k.post, k.digests⟩
  | own o =>
    cases o with
    | transport q => rw [q.session.1]; exact ⟨k.pre, k.post, k.digests⟩
    | auth i d row hd =>
      refine ⟨nofun, fun j hj => ?_, fun e he => ?_⟩
      · cases hj; exact ⟨d, row, by simp, rfl, rfl⟩
      · rcases List.mem_append.mp he with he | he
        · exact k.digests e he
        · cases List.mem_singleton.mp he; exact hd
    | sub _ _ _ hak => exact ⟨fun hk => absurd hk hak, k.post, k.digests⟩
    | unsub => exact ⟨fun hk => have p := k.pre hk; ⟨by rw [p.1]; rfl, p.2⟩, k.post, k.digests⟩
    | forget => exact ⟨fun hk => ⟨rfl, (k.pre hk).2⟩, k.post, k.digests⟩
    | gone => exact ⟨k.pre, k.post, k.digests⟩

theorem authOK_fresh (cfg : Cfg) (t : Nat) (n : Bytes) : AuthOK cfg (fresh cfg t n) :=
  ⟨fun _ => ⟨rfl, rfl, rfl, rfl, rfl⟩, nofun, nofun⟩

theorem Moves.authInv {cfg : Cfg} {s s' : State} (m : Moves cfg (RecStep cfg.H) s s') (h : AuthInv cfg s) :
    AuthInv cfg s' :=
  m.allRec (fun _ _ _ => RecStep.authOK) (fun _ n _ => authOK_fresh cfg _ n) h

theorem auth_runS (cfg : Cfg) (es : List (Store × Event)) : AuthInv cfg (runS cfg es) :=
  allRec_runS (fun _ _ _ => RecStep.authOK) (authOK_fresh cfg) es

def RecipAuth (s : State) : Prop :=
  ∀ a ∈ s.accepted, ∀ d ∈ a.recips, ∃ y, s.conn d = some y ∧ y.ak.isSome = true

theorem recipAuth_of {s s' : State} (hm : Mono s s') (hacc : s'.accepted = s.accepted) (h : RecipAuth s) :
    RecipAuth s' := by
  intro a ha d hd
  rw [hacc] at ha
  obtain ⟨y, hy, hk⟩ := h a ha d hd
  obtain ⟨y', hy', m⟩ := hm d y hy
  exact ⟨y', hy', m.ak hk⟩

theorem recipAuth_publish {cfg : Cfg} {s : State} (c : Nat) (x : Conn) (i ch p : Bytes)
    (hr : Reg s) (ha : AuthInv cfg s) (h : RecipAuth s) : RecipAuth (publish s c x i ch p) := by
  have keep {d : Nat} {y : Conn} (hy : s.conn d = some y) (hk : y.ak.isSome = true) :
      ∃ y', (publish s c x i ch p).conn d = some y' ∧ y'.ak.isSome = true :=
    ((moves_publish (cfg := cfg) x i ch p).toMono d y hy).imp fun _ k => ⟨k.1, k.2.ak hk⟩
  obtain ⟨a0, hacc, hrec⟩ := publish_accepted s c x i ch p
  intro a hain d hd
  rw [hacc, List.mem_append, List.mem_singleton] at hain
  rcases hain with hain | rfl
  · obtain ⟨y, hy, hk⟩ := h a hain d hd
    exact keep hy hk
  · -- a recipient holds a subscription, and an unauthenticated connection holds none
    obtain ⟨y, hy, hya, _⟩ := (mem_recipsOf hr).mp (hrec ▸ hd)
    refine keep hy ?_
    cases hk : y.ak with
    | none => rw [((ha d y hy).pre hk).1] at hya; cases hya
    | some _ => rfl

/-- under whatever store `st` a step is taken: `AuthOK` mentions the configuration only through its hash -/
theorem regAuthRecipPres (cfg : Cfg) (st : Store) :
    Pres (cfg.withStore st) (fun s => (Reg s ∧ AuthInv cfg s) ∧ RecipAuth s) where
  prim := fun c => presAt_ofOwn
    (fun _ _ m h => ⟨⟨m.reg h.1.1, Moves.authInv (cfg := cfg) m.toMoves h.1.2⟩,
      recipAuth_of m.toMoves.toMono m.accepted h.2⟩)
    (fun _ x i ch p _ _ _ _ h =>
      ⟨⟨reg_publish c x i ch p h.1.1, Moves.authInv (cfg := cfg) (moves_publish x i ch p) h.1.2⟩,
       recipAuth_publish c x i ch p h.1.1 h.1.2 h.2⟩)
  tick := fun s _ h => ⟨⟨reg_congr (s := s) rfl rfl rfl h.1.1, h.1.2⟩, h.2⟩

theorem recipAuth_runS (cfg : Cfg) (es : List (Store × Event)) : RecipAuth (runS cfg es) :=
  (pres_runS cfg (regAuthRecipPres cfg)
    ⟨⟨reg_init, by intro d y h; simp [init] at h⟩, by intro a ha; simp [init] at ha⟩ es).2

/-- the most recent processed request for `ch` (`lastReq` is newest first) -/
def lastFor (l : List (Bytes × Bool)) (ch : Bytes) : Option Bool :=
  (l.find? fun e => e.1 = ch).map (·.2)

def LastOK (x : Conn) : Prop :=
  x.registered = true → ∀ ch, ch ∈ x.active ↔ lastFor x.lastReq ch = some true

def LastInv (s : State) : Prop := ∀ c x, s.conn c = some x → LastOK x

theorem lastFor_cons (l : List (Bytes × Bool)) (ch ch' : Bytes) (b : Bool) :
    lastFor ((ch, b) :: l) ch' = if ch = ch' then some b else lastFor l ch' := by
  unfold lastFor
  by_cases h : ch = ch'
  · simp [h]
  · simp [h]

theorem RecStep.lastOK {H : Bytes → Bytes} {t : Nat} {x y : Conn} (h : RecStep H t x y)
    (k : x.active.Nodup ∧ LastOK x) : y.active.Nodup ∧ LastOK y := by
  obtain ⟨hnd, k⟩ := k
  cases h with
  | pub => exact ⟨hnd, k⟩
  | own o =>
    cases o with
    | transport q => rw [q.session.1]; exact ⟨hnd, k⟩
    | sub ch ok hr =>
      refine ⟨nodup_addNew hnd, fun _ ch' => ?_⟩
      simp only [mem_addNew, lastFor_cons]
      split
      · subst ch'; simp
      · rename_i hne; rw [← k hr ch']; exact ⟨fun h => h.resolve_right (Ne.symm hne), Or.inl⟩
    | unsub ch =>
      -- why `Nodup` is carried along: erasing once must remove the channel
      refine ⟨hnd.erase ch, fun hr ch' => ?_⟩
      simp only [lastFor_cons, List.Nodup.mem_erase_iff hnd]
      split
      · subst ch'; simp
      · rename_i hne; rw [← k hr ch']; exact ⟨fun h => h.2, fun h => ⟨Ne.symm hne, h⟩⟩
    | forget => exact ⟨List.nodup_nil, nofun⟩
    | _ => exact ⟨hnd, k⟩

theorem lastOK_fresh (cfg : Cfg) (t : Nat) (n : Bytes) :
    (fresh cfg t n).active.Nodup ∧ LastOK (fresh cfg t n) :=
  ⟨List.nodup_nil, fun _ ch => by simp [fresh, lastFor]⟩

theorem last_runS (cfg : Cfg) (es : List (Store × Event)) : LastInv (runS cfg es) :=
  fun c x hx => (allRec_runS (fun _ _ _ => RecStep.lastOK) (lastOK_fresh cfg) es c x hx).2

theorem last_run (cfg : Cfg) (es : List Event) : LastInv (run cfg es) :=
  run_eq_runS cfg es ▸ last_runS cfg _

/-- the broker unregisters a connection only when (or, for `lost`, in the same step as) its transport
    is closing -/
def UnregClosing (s : State) : Prop := ∀ c x, s.conn c = some x → x.registered = false → x.closing = true

theorem uc_of_conn {s s' : State}
    (hc : ∀ d y', s'.conn d = some y' → ∃ y, s.conn d = some y ∧
      ((y.registered = false → y.closing = true) → (y'.registered = false → y'.closing = true)))
    (h : UnregClosing s) : UnregClosing s' := by
  intro d y' hy' hr
  obtain ⟨y, hy, k⟩ := hc d y' hy'
  exact k (h d y hy) hr

theorem RecStep.uc {H : Bytes → Bytes} {t : Nat} {x y : Conn} (h : RecStep H t x y)
    (k : x.registered = false → x.closing = true) : y.registered = false → y.closing = true := by
  cases h with
  | pub => exact k
  | own o =>
    cases o with
    | transport q => have e := q.session; rw [e.1]; exact fun hr => e.2 (k hr)
    | forget hc => exact fun _ => hc
    | _ => exact k

theorem uc_runS (cfg : Cfg) (es : List (Store × Event)) : UnregClosing (runS cfg es) :=
  allRec_runS (cfg := cfg) (fun _ _ _ => RecStep.uc) (fun _ _ => nofun) es

theorem uc_run (cfg : Cfg) (es : List Event) : UnregClosing (run cfg es) :=
  run_eq_runS cfg es ▸ uc_runS cfg _

end Hpfeeds.Broker
