/-
  The environment store read back from the environment a user table is WRITTEN to: `envOf` is how an operator
  (and the stores engine of the harness) configures identities — four variables per identity, channel lists
  joined with commas.  Lemmas for C17.
-/
import Hpfeeds.Model.Stores
namespace Hpfeeds.Stores
open Hpfeeds

/-- `','.join(chans)` -/
def joinComma (cs : List Bytes) : Bytes := List.intercalate [44] cs

def envVars (up : Bytes → Bytes) (e : Bytes × Rec) : List (Bytes × Bytes) :=
  [(envKey up e.1 SECRET, e.2.secret), (envKey up e.1 OWNER, e.2.owner),
   (envKey up e.1 SUBCHANS, joinComma e.2.subchans), (envKey up e.1 PUBCHANS, joinComma e.2.pubchans)]

def envOf (up : Bytes → Bytes) (t : Table) : Bytes → Option Bytes :=
  fun k => ((t.flatMap (envVars up)).find? (fun kv => kv.1 = k)).map (·.2)

/-! The stores are association lists read with `find?` on the key (`tableLookup`, `envOf`; `JsonReload.field` has the
    same body): what such a look-up returns, for any list in which the key is bound to one value only. -/

theorem lookup_eq_some {κ ν : Type} [DecidableEq κ] {l : List (κ × ν)} {k : κ} {v : ν} (hm : (k, v) ∈ l)
    (hu : ∀ e ∈ l, e.1 = k → e.2 = v) : (l.find? fun e => e.1 = k).map (·.2) = some v := by
  cases hf : l.find? fun e => e.1 = k with
  | none => exact absurd (decide_eq_true rfl) (List.find?_eq_none.mp hf _ hm)
  | some e =>
    have hk : e.1 = k := of_decide_eq_true (List.find?_some (p := fun e : κ × ν => decide (e.1 = k)) hf)
    exact congrArg some (hu e (List.mem_of_find?_eq_some hf) hk)

theorem lookup_eq_none {κ ν : Type} [DecidableEq κ] {l : List (κ × ν)} {k : κ} (h : ∀ e ∈ l, e.1 ≠ k) :
    (l.find? fun e => e.1 = k).map (·.2) = none := by
  rw [List.find?_eq_none.mpr fun e he => decide_eq_false (h e he) ▸ Bool.false_ne_true]
  rfl

theorem eq_of_nodup_map {α β : Type} {f : α → β} {l : List α} (hnd : (l.map f).Nodup) {x y : α}
    (hx : x ∈ l) (hy : y ∈ l) (h : f x = f y) : x = y :=
  have p : l.Pairwise fun a b => f a ≠ f b := List.pairwise_map.mp hnd
  List.Pairwise.forall_of_forall_of_flip (R := fun a b => f a = f b → a = b) (fun _ _ _ => rfl)
    (p.imp fun hne e => absurd e hne) (p.imp fun hne e => absurd e.symm hne) hx hy h

theorem split_join (cs : List Bytes) (h : ∀ c ∈ cs, c ≠ [] ∧ (44 : UInt8) ∉ c) : splitComma (joinComma cs) = cs := by
  unfold splitComma joinComma
  cases cs with
  | nil => decide
  | cons c cs =>
    rw [List.splitOn_intercalate 44 (fun l hl => (h l hl).2) (by simp)]
    apply List.filter_eq_self.mpr
    intro l hl
    simpa using (h l hl).1

theorem append_underscore_inj (a1 a2 x1 x2 : Bytes) (h1 : underscore ∉ x1) (h2 : underscore ∉ x2)
    (h : a1 ++ underscore :: x1 = a2 ++ underscore :: x2) : a1 = a2 ∧ x1 = x2 := by
  induction a1 generalizing a2 with
  | nil =>
    cases a2 with
    | nil => simp at h; exact ⟨rfl, h⟩
    | cons b a2 =>
      simp only [List.nil_append, List.cons_append, List.cons.injEq] at h
      exfalso; apply h1; rw [h.2]; simp
  | cons b a1 ih =>
    cases a2 with
    | nil =>
      simp only [List.nil_append, List.cons_append, List.cons.injEq] at h
      exfalso; apply h2; rw [← h.2]; simp
    | cons b' a2 =>
      simp only [List.cons_append, List.cons.injEq] at h
      obtain ⟨e1, e2⟩ := ih a2 h.2
      exact ⟨by rw [h.1, e1], e2⟩

def IsAttr' (a : Bytes) : Prop := a = SECRET ∨ a = OWNER ∨ a = SUBCHANS ∨ a = PUBCHANS

theorem key_inj (up : Bytes → Bytes) (i1 i2 a1 a2 : Bytes) (h1 : IsAttr' a1) (h2 : IsAttr' a2)
    (h : envKey up i1 a1 = envKey up i2 a2) : up i1 = up i2 ∧ a1 = a2 := by
  unfold envKey at h
  have h' := List.append_cancel_left h
  simp only [List.cons.injEq, true_and] at h'
  have nu : ∀ {a}, IsAttr' a → underscore ∉ a := by rintro _ (rfl | rfl | rfl | rfl) <;> decide
  exact append_underscore_inj _ _ _ _ (nu h1) (nu h2) h'

/-- the value `envVars` gives attribute `a` -/
def valOf (r : Rec) (a : Bytes) : Bytes :=
  if a = SECRET then r.secret else if a = OWNER then r.owner
  else if a = SUBCHANS then joinComma r.subchans else joinComma r.pubchans

theorem valOf_secret (r : Rec) : valOf r SECRET = r.secret := rfl
theorem valOf_owner (r : Rec) : valOf r OWNER = r.owner := rfl
theorem valOf_subchans (r : Rec) : valOf r SUBCHANS = joinComma r.subchans := rfl
theorem valOf_pubchans (r : Rec) : valOf r PUBCHANS = joinComma r.pubchans := rfl

theorem mem_envVars {up : Bytes → Bytes} {e : Bytes × Rec} {kv : Bytes × Bytes} :
    kv ∈ envVars up e ↔ ∃ a, IsAttr' a ∧ (envKey up e.1 a, valOf e.2 a) = kv := by
  rw [show envVars up e = [SECRET, OWNER, SUBCHANS, PUBCHANS].map fun a => (envKey up e.1 a, valOf e.2 a) from rfl,
    List.mem_map]
  simp only [IsAttr', List.mem_cons, List.not_mem_nil, or_false]

theorem envOf_hit (up : Bytes → Bytes) (t : Table) (i j : Bytes) (r : Rec) (a : Bytes) (ha : IsAttr' a)
    (hnd : (t.map (fun e => up e.1)).Nodup) (h : (i, r) ∈ t) (hj : up j = up i) :
    envOf up t (envKey up j a) = some (valOf r a) := by
  have hk : envKey up j a = envKey up i a := by unfold envKey; rw [hj]
  refine lookup_eq_some (List.mem_flatMap.mpr ⟨_, h, mem_envVars.mpr ⟨a, ha, by rw [hk]⟩⟩) ?_
  -- a variable of that name belongs to an entry with the same upper-cased ident: to `(i, r)` itself
  intro kv hkv hkey
  obtain ⟨e, he, hm⟩ := List.mem_flatMap.mp hkv
  obtain ⟨a', ha', rfl⟩ := mem_envVars.mp hm
  obtain ⟨hu, rfl⟩ := key_inj up e.1 j a' a ha' ha hkey
  rw [eq_of_nodup_map hnd he h (hu.trans hj)]

theorem envOf_miss (up : Bytes → Bytes) (t : Table) (j a : Bytes) (ha : IsAttr' a)
    (h : up j ∉ t.map (fun e => up e.1)) : envOf up t (envKey up j a) = none := by
  refine lookup_eq_none fun kv hkv hkey => h ?_
  obtain ⟨e, he, hm⟩ := List.mem_flatMap.mp hkv
  obtain ⟨a', ha', rfl⟩ := mem_envVars.mp hm
  rw [← (key_inj up e.1 j a' a ha' ha hkey).1]
  exact List.mem_map_of_mem he

end Hpfeeds.Stores
