/-
  Back-pressure deadline: the armed deadline of a connection is always "the time of the last
  pause_writing not followed by a resume_writing or an expiry, plus the grace period"; and under the
  event-loop contract (a due timer fires before the clock moves on) an armed deadline is never overrun.
-/
import Hpfeeds.Lemmas.BrokerMoves
import Hpfeeds.Model.BrokerValid
namespace Hpfeeds.Broker
open Hpfeeds Extracted

/-- scan the action log: when did the current stall episode begin (if one is in progress)? -/
def armedStep (acc : Option Nat) (e : Nat × Act) : Option Nat :=
  match e.2 with
  | .pausedW => some e.1
  | .resumedW => none
  | .deadlineFired => none
  | _ => acc

def armedSince (out : List (Nat × Act)) : Option Nat := out.foldl armedStep none

def DeadlineOK (x : Conn) : Prop := x.deadline = (armedSince x.out).map (· + gracePeriodMs)

def DeadlineInv (s : State) : Prop := ∀ c x, s.conn c = some x → DeadlineOK x

theorem armedSince_snoc (o : List (Nat × Act)) (e : Nat × Act) :
    armedSince (o ++ [e]) = armedStep (armedSince o) e := by
  unfold armedSince; rw [List.foldl_append]; rfl

theorem armedStep_quiet (acc : Option Nat) (t : Nat) {a : Act} (h : Quiet a) : armedStep acc (t, a) = acc := by
  cases a with
  | pausedW => exact absurd rfl h.1
  | resumedW => exact absurd rfl h.2.1
  | deadlineFired => exact absurd rfl h.2.2
  | _ => rfl

theorem TStep.deadlineOK {t : Nat} {x y : Conn} (q : TStep t x y) (k : DeadlineOK x) : DeadlineOK y := by
  unfold DeadlineOK at k ⊢
  cases q with
  | log a _ hq => simp only; rw [armedSince_snoc, armedStep_quiet _ _ hq]; exact k
  | arm => simp only; rw [armedSince_snoc]; rfl
  | disarm a ha => simp only; rw [armedSince_snoc]; rcases ha with rfl | rfl <;> rfl
  | _ => exact k

theorem RecStep.deadlineOK {H : Bytes → Bytes} {t : Nat} {x y : Conn} (h : RecStep H t x y) (k : DeadlineOK x) :
    DeadlineOK y := by
  cases h with
  | pub f =>
    unfold DeadlineOK at k ⊢
    simp only; rw [armedSince_snoc]; exact k
  | own o =>
    cases o with
    | transport q => exact q.deadlineOK k
    | _ => exact k

theorem dl_runS (cfg : Cfg) (es : List (Store × Event)) : DeadlineInv (runS cfg es) :=
  allRec_runS (cfg := cfg) (fun _ _ _ => RecStep.deadlineOK) (fun _ _ => rfl) es

theorem dl_run (cfg : Cfg) (es : List Event) : DeadlineInv (run cfg es) :=
  run_eq_runS cfg es ▸ dl_runS cfg _

theorem dlInv_errorClose {s : State} (c : Nat) (h : DeadlineInv s) : DeadlineInv (errorClose s c) := by
  intro d y' hy'
  obtain ⟨y, hy, k⟩ := (tupd_errorClose s c).back hy'
  exact k.lift (fun _ _ => TStep.deadlineOK) (h d y hy)

def DlRel (s0 s' : State) : Prop :=
  s'.now = s0.now ∧ s'.ids = s0.ids ∨ s'.now = s0.now ∧ ∃ c, s'.ids = s0.ids ++ [c]

def DlKeep (s0 s' : State) : Prop :=
  s'.now = s0.now ∧
  ∀ d y' t, s'.conn d = some y' → y'.deadline = some t →
    t = s0.now + gracePeriodMs ∨ ∃ y, s0.conn d = some y ∧ y.deadline = some t

theorem TStep.deadline {t : Nat} {x y : Conn} (q : TStep t x y) :
    ∀ u, y.deadline = some u → u = t + gracePeriodMs ∨ x.deadline = some u := by
  intro u hu
  cases q with
  | arm => exact Or.inl (Option.some.inj hu).symm
  | disarm => cases hu
  | _ => exact Or.inr hu

theorem RecStep.deadline {H : Bytes → Bytes} {t : Nat} {x y : Conn} (h : RecStep H t x y) :
    ∀ u, y.deadline = some u → u = t + gracePeriodMs ∨ x.deadline = some u := by
  cases h with
  | pub => exact fun _ => Or.inr
  | own o =>
    cases o with
    | transport q => exact q.deadline
    | _ => exact fun _ => Or.inr

theorem dlKeep_errorClose (s : State) (c : Nat) : DlKeep s (errorClose s c) := by
  refine ⟨(tupd_errorClose s c).frame.1, fun d y' u hy' hu => ?_⟩
  obtain ⟨y, hy, k⟩ := (tupd_errorClose s c).back hy'
  exact (k.rel (fun _ _ => .inr) (fun _ _ _ h1 h2 u hu => (h2 u hu).elim .inl (h1 u)) (fun _ _ => TStep.deadline) u
    hu).imp_right fun h => ⟨y, hy, h⟩

def NoOverrun (s : State) : Prop := ∀ d y, s.conn d = some y → ∀ t, y.deadline = some t → s.now ≤ t

theorem noOverrun_step (cfg : Cfg) (s : State) (e : Event) (hr : Reg s) (hok : okEvent cfg s e = true)
    (h : NoOverrun s) : NoOverrun (step cfg s e) := by
  by_cases he : ∃ ms, e = .advance ms
  · obtain ⟨ms, rfl⟩ := he
    intro d y hy t ht
    simp only [step, tick] at hy ⊢
    simp only [okEvent, List.all_eq_true] at hok
    have hd : d ∈ s.ids := by rw [hr.ids_iff, hy]; rfl
    have := hok d hd
    rw [hy] at this
    simp only [ht, decide_eq_true_eq] at this
    exact this
  · -- within the instant a deadline is kept, cleared, or armed at `now + grace`
    have m := moves_step cfg s e fun ms h' => he ⟨ms, h'⟩
    unfold NoOverrun
    rw [m.1]
    exact m.allRec (fun _ _ _ k i u hu => (k.deadline u hu).elim (fun e => e ▸ Nat.le_add_right ..) (i u))
      (fun _ _ _ => nofun) h

theorem noOverrun_valid (cfg : Cfg) (es : List Event) (s : State) (hr : Reg s) (h : NoOverrun s)
    (hv : validFrom cfg s es = true) : NoOverrun (es.foldl (step cfg) s) := by
  induction es generalizing s with
  | nil => exact h
  | cons e es ih =>
    simp only [validFrom, Bool.and_eq_true] at hv
    exact ih _ (pres_step (regPres cfg) s e hr) (noOverrun_step cfg s e hr hv.1 h) hv.2

theorem noOverrun_run (cfg : Cfg) (es : List Event) (hv : Valid cfg es) : NoOverrun (run cfg es) :=
  noOverrun_valid cfg es init reg_init (by intro d y h; simp [init] at h) hv

end Hpfeeds.Broker
