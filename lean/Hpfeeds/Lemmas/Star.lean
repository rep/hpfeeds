/-
  A model function `σ → σ × List ω` that is built from smaller ones by threading the state and appending the
  outputs is a sequence of atomic actions.  `Star A s r`: `r` is reached from `s` by actions of `A`, the outputs
  appended in order.  What every action of `A` carries over, every such function carries over (`Star.lift`).
-/
namespace Hpfeeds

variable {σ ω : Type}

inductive Star (A : σ → σ × List ω → Prop) : σ → σ × List ω → Prop
  | refl (s : σ) : Star A s (s, [])
  | atom {s : σ} {r : σ × List ω} : A s r → Star A s r
  | trans {s : σ} {r t : σ × List ω} : Star A s r → Star A r.1 t → Star A s (t.1, r.2 ++ t.2)

namespace Star
variable {A : σ → σ × List ω → Prop}

theorem silent {s : σ} {r : σ × List ω} {t : σ} (h : Star A s r) (a : A r.1 (t, [])) : Star A s (t, r.2) := by
  simpa using h.trans (.atom a)

theorem lift {P : σ × List ω → Prop} (hA : ∀ {acc r}, A acc.1 r → P acc → P (r.1, acc.2 ++ r.2))
    {s : σ} {r : σ × List ω} (h : Star A s r) : ∀ outs, P (s, outs) → P (r.1, outs ++ r.2) := by
  induction h with
  | refl s => intro outs hp; rwa [List.append_nil]
  | atom a => exact fun outs hp => hA a hp
  | trans _ _ ih1 ih2 => intro outs hp; rw [← List.append_assoc]; exact ih2 _ (ih1 _ hp)

theorem preserves (I : σ → Prop) (hA : ∀ {s r}, A s r → I s → I r.1) {s : σ} {r : σ × List ω}
    (h : Star A s r) (hs : I s) : I r.1 :=
  h.lift (P := fun acc => I acc.1) (fun {_ r} a => hA (r := r) a) [] hs

end Star
end Hpfeeds
