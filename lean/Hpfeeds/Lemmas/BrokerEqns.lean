/-
  The primitives as equations: what each is on the record of its connection, that it leaves every other record, the
  clock and the accepted log alone, and when it does nothing at all.
-/
import Hpfeeds.Model.BrokerFault
namespace Hpfeeds.Broker
open Hpfeeds Extracted

theorem foldl_pres {σ α : Type} {P : σ → Prop} {g : σ → α → σ} (h : ∀ s a, P s → P (g s a)) (l : List α) {s : σ}
    (hs : P s) : P (l.foldl g s) := by
  induction l generalizing s with
  | nil => exact hs
  | cons a l ih => exact ih (h s a hs)

@[simp] theorem upd_conn (s : State) (c : Nat) (f : Conn → Conn) (d : Nat) :
    (s.upd c f).conn d = if d = c then (s.conn d).map f else s.conn d := rfl

theorem upd_conn_self {s : State} {c : Nat} {f : Conn → Conn} {x : Conn} (h : s.conn c = some x) :
    (s.upd c f).conn c = some (f x) := by simp [h]

theorem upd_conn_at {s : State} {c : Nat} {x : Conn} (f : Conn → Conn) (hx : s.conn c = some x) (d : Nat) :
    (s.upd c f).conn d = if d = c then some (f x) else s.conn d := by
  rw [upd_conn]
  split
  · rename_i hd; rw [hd, hx]; rfl
  · rfl

theorem logAct_conn_self {s : State} {c : Nat} {a : Act} {x : Conn} (h : s.conn c = some x) :
    (logAct s c a).conn c = some { x with out := x.out ++ [(s.now, a)] } := by
  simp [logAct, h]

@[simp] theorem upd_now (s : State) (c : Nat) (f : Conn → Conn) : (s.upd c f).now = s.now := rfl

theorem upd_of_none {s : State} {c : Nat} (f : Conn → Conn) (hx : s.conn c = none) : s.upd c f = s := by
  unfold State.upd
  have : (fun k => if k = c then (s.conn k).map f else s.conn k) = s.conn := by
    funext k
    by_cases hk : k = c
    · subst hk; simp [hx]
    · simp [hk]
  rw [this]

theorem upd_id (s : State) (c : Nat) : s.upd c id = s := by
  unfold State.upd
  have : (fun k => if k = c then (s.conn k).map id else s.conn k) = s.conn := by
    funext k; split <;> simp
  rw [this]

theorem upd_upd (s : State) (c : Nat) (f g : Conn → Conn) : (s.upd c f).upd c g = s.upd c (g ∘ f) := by
  unfold State.upd
  congr 1
  funext k
  by_cases hk : k = c <;> simp [hk]

theorem beginClose_of_closing {x : Conn} (h : x.closing = true) : x.beginClose = x := by
  simp [Conn.beginClose, h]

theorem beginClose_of_open {x : Conn} (h : x.closing = false) :
    x.beginClose = { x with closing := true, pubsAtClose := some (pubFrames x.out) } := by
  simp [Conn.beginClose, h]

theorem closeT_conn_eq {s : State} {c : Nat} {x : Conn} (hx : s.conn c = some x) :
    (closeT s c).conn c =
      some (if x.closing then x else { x.beginClose with out := x.out ++ [(s.now, .close)] }) := by
  simp [closeT, hx]

theorem errorClose_conn_eq {s : State} {c : Nat} {x : Conn} (hx : s.conn c = some x) :
    (errorClose s c).conn c = some { x with
      out := x.out ++ [(s.now, .write errFrame)] ++ (if x.closing then [] else [(s.now, .close)])
      closing := true
      pubsAtClose := if x.closing then x.pubsAtClose else some (pubFrames (x.out ++ [(s.now, .write errFrame)])) } := by
  rw [errorClose, closeT_conn_eq (logAct_conn_self hx)]
  cases hc : x.closing
  · simp [Conn.beginClose, logAct]
  · simp [← hc]

theorem peerClose_now (s : State) (c : Nat) : (peerClose s c).now = s.now := by
  fun_cases peerClose s c <;> rfl

theorem pubFrame_op (i ch p : Bytes) : (pubFrame i ch p).op.toNat = OP_PUBLISH := by
  show (UInt8.ofNat OP_PUBLISH).toNat = OP_PUBLISH
  decide

theorem subscribe_eq {s : State} {c : Nat} {ch : Bytes} {x : Conn} (hx : s.conn c = some x)
    (hnot : ch ∉ x.active) :
    subscribe s c ch =
      { s with
        conn := fun d => if d = c then some { x with active := x.active ++ [ch] } else s.conn d
        gSubs := bump s.gSubs x.ak ch 1
        labels := if x.ak ∈ s.labels then s.labels else s.labels ++ [x.ak]
        subs := fun k => if k = ch then s.subs k ++ [c] else s.subs k } := by
  unfold subscribe
  rw [hx]
  simp only [hnot, if_false, State.upd]
  congr 1
  funext d
  by_cases hd : d = c
  · subst hd; simp [hx]
  · simp [hd]

theorem subscribe_noop {s : State} {c : Nat} {ch : Bytes} {x : Conn} (hx : s.conn c = some x)
    (hin : ch ∈ x.active) : subscribe s c ch = s := by
  unfold subscribe; rw [hx]; simp [hin]

theorem nodup_snoc {α : Type} {l : List α} {a : α} (h : l.Nodup) (ha : a ∉ l) : (l ++ [a]).Nodup :=
  List.nodup_append.mpr ⟨h, by simp, fun b hb c hc => by simp at hc; subst hc; rintro rfl; exact ha hb⟩

/-- `active_subscriptions.add(chan)`, the set kept as a duplicate-free list -/
def addNew (l : List Bytes) (ch : Bytes) : List Bytes := if ch ∈ l then l else l ++ [ch]

theorem mem_addNew {l : List Bytes} {ch ch' : Bytes} : ch' ∈ addNew l ch ↔ ch' ∈ l ∨ ch' = ch := by
  unfold addNew
  split
  · exact ⟨.inl, fun h => h.elim id fun e => e ▸ ‹_›⟩
  · simp

theorem nodup_addNew {l : List Bytes} {ch : Bytes} (h : l.Nodup) : (addNew l ch).Nodup := by
  unfold addNew
  split
  · exact h
  · exact nodup_snoc h ‹_›

theorem subscribe_conn {s : State} {c : Nat} {ch : Bytes} {x : Conn} (hx : s.conn c = some x) :
    (subscribe s c ch).conn c = some { x with active := addNew x.active ch } := by
  by_cases hin : ch ∈ x.active
  · rw [subscribe_noop hx hin, hx]; simp [addNew, hin]
  · rw [subscribe_eq hx hin]; simp [addNew, hin]

theorem subscribe_conn_ne {s : State} {c d : Nat} {ch : Bytes} (hd : d ≠ c) :
    (subscribe s c ch).conn d = s.conn d := by
  fun_cases subscribe s c ch <;> simp [hd]

theorem subscribe_frame (s : State) (c : Nat) (ch : Bytes) :
    (subscribe s c ch).now = s.now ∧ (subscribe s c ch).accepted = s.accepted := by
  fun_cases subscribe s c ch <;> exact ⟨rfl, rfl⟩

theorem doSubscribe_conn {s : State} {c : Nat} {x : Conn} (ch : Bytes) (ok : Bool) (hx : s.conn c = some x) :
    (doSubscribe s c ch ok).conn c = some { x with
      active := addNew x.active ch
      granted := if ok = true ∧ ch ∉ x.granted then x.granted ++ [ch] else x.granted
      lastReq := (ch, true) :: x.lastReq } := by
  simp [doSubscribe, noteSub, subscribe_conn hx]

theorem doSubscribe_conn_ne {s : State} {c d : Nat} (ch : Bytes) (ok : Bool) (hd : d ≠ c) :
    (doSubscribe s c ch ok).conn d = s.conn d := by
  simp [doSubscribe, noteSub, hd, subscribe_conn_ne hd]

theorem unsubscribe_eq {s : State} {c : Nat} {ch : Bytes} {x : Conn} (hx : s.conn c = some x)
    (hin : ch ∈ x.active) :
    unsubscribe s c ch =
      { s with
        conn := fun d => if d = c then some { x with active := x.active.erase ch } else s.conn d
        gSubs := bump s.gSubs x.ak ch (-1)
        labels := if x.ak ∈ s.labels then s.labels else s.labels ++ [x.ak]
        subs := fun k => if k = ch then (s.subs k).erase c else s.subs k } := by
  unfold unsubscribe
  rw [hx]
  simp only [hin, if_true, State.upd]
  congr 1
  funext d
  by_cases hd : d = c
  · subst hd; simp [hx]
  · simp [hd]

theorem unsubscribe_noop {s : State} {c : Nat} {ch : Bytes} {x : Conn} (hx : s.conn c = some x)
    (hin : ch ∉ x.active) : unsubscribe s c ch = s := by
  unfold unsubscribe; rw [hx]; simp [hin]

theorem unsubscribe_none {s : State} {c : Nat} {ch : Bytes} (hx : s.conn c = none) :
    unsubscribe s c ch = s := by
  unfold unsubscribe; rw [hx]

theorem unsubscribe_conn {s : State} {c : Nat} {ch : Bytes} {x : Conn} (hx : s.conn c = some x) :
    (unsubscribe s c ch).conn c = some { x with active := x.active.erase ch } := by
  by_cases hin : ch ∈ x.active
  · rw [unsubscribe_eq hx hin]; simp
  · rw [unsubscribe_noop hx hin, hx, List.erase_of_not_mem hin]

theorem unsubscribe_conn_ne {s : State} {c d : Nat} {ch : Bytes} (hd : d ≠ c) :
    (unsubscribe s c ch).conn d = s.conn d := by
  fun_cases unsubscribe s c ch <;> simp [hd]

theorem unsubscribe_frame (s : State) (c : Nat) (ch : Bytes) :
    (unsubscribe s c ch).now = s.now ∧ (unsubscribe s c ch).accepted = s.accepted := by
  fun_cases unsubscribe s c ch <;> exact ⟨rfl, rfl⟩

theorem doUnsubscribe_conn {s : State} {c : Nat} {x : Conn} (ch : Bytes) (hx : s.conn c = some x) :
    (doUnsubscribe s c ch).conn c =
      some { x with active := x.active.erase ch, lastReq := (ch, false) :: x.lastReq } := by
  simp [doUnsubscribe, noteUnsub, unsubscribe_conn hx]

theorem doUnsubscribe_conn_ne {s : State} {c d : Nat} (ch : Bytes) (hd : d ≠ c) :
    (doUnsubscribe s c ch).conn d = s.conn d := by
  simp [doUnsubscribe, noteUnsub, hd, unsubscribe_conn_ne hd]

theorem foldl_unsubscribe_conn {s : State} {c : Nat} (l : List Bytes) {x : Conn} (hx : s.conn c = some x) :
    (l.foldl (fun s ch => unsubscribe s c ch) s).conn c =
      some { x with active := l.foldl (fun a ch => a.erase ch) x.active } := by
  induction l generalizing s x with
  | nil => simpa using hx
  | cons a l ih =>
    simp only [List.foldl_cons]
    rw [ih (unsubscribe_conn hx)]

theorem foldl_erase_append (l m : List Bytes) : l.foldl (fun a ch => a.erase ch) (l ++ m) = m := by
  induction l with
  | nil => rfl
  | cons a l ih => rw [List.foldl_cons, List.cons_append, List.erase_cons_head, ih]

theorem foldl_erase_self (l : List Bytes) : l.foldl (fun a ch => a.erase ch) l = [] := by
  simpa using foldl_erase_append l []

/-- what `connection_lost` makes of the record -/
def Conn.forgotten (x : Conn) : Conn :=
  if x.registered then { x with active := [], registered := false, lostAs := some x.ak } else x

theorem connectionLost_conn {s : State} {c : Nat} {x : Conn} (hx : s.conn c = some x) :
    (connectionLost s c).conn c = some x.forgotten := by
  unfold connectionLost Conn.forgotten
  simp only [hx]
  split
  · rw [upd_conn_self (foldl_unsubscribe_conn (s := countLost s x.ak) x.active hx), foldl_erase_self]
  · exact hx

theorem connectionLost_noop {s : State} {c : Nat} {x : Conn} (hx : s.conn c = some x) (hr : x.registered = false) :
    connectionLost s c = s := by
  unfold connectionLost; rw [hx]; simp [hr]

theorem connectionLost_conn_ne {s : State} {c d : Nat} (hd : d ≠ c) :
    (connectionLost s c).conn d = s.conn d := by
  fun_cases connectionLost s c
  · rfl
  · simp only [upd_conn, hd, if_false]
    exact foldl_pres (P := fun t : State => t.conn d = s.conn d) (fun _ _ h => (unsubscribe_conn_ne hd).trans h) _ rfl
  · rfl

theorem connectionLost_frame (s : State) (c : Nat) :
    (connectionLost s c).now = s.now ∧ (connectionLost s c).accepted = s.accepted := by
  unfold connectionLost
  split
  · exact ⟨rfl, rfl⟩
  · rename_i x _
    split
    · exact foldl_pres (P := fun t : State => t.now = s.now ∧ t.accepted = s.accepted)
        (fun t ch h => ⟨(unsubscribe_frame t c ch).1.trans h.1, (unsubscribe_frame t c ch).2.trans h.2⟩)
        x.active ⟨rfl, rfl⟩
    · exact ⟨rfl, rfl⟩

theorem authOk_spec {cfg : Cfg} {x : Conn} {d : Bytes} {r : Lookup} {row : Row}
    (h : authOk cfg x d r = some row) : r = .row row ∧ cfg.H (x.nonce ++ row.secret) = d := by
  cases r with
  | row r' =>
    simp only [authOk] at h
    split at h
    · cases h; exact ⟨rfl, by assumption⟩
    · cases h
  | missing => simp [authOk] at h
  | raised => simp [authOk] at h

theorem step_lost_none {cfg : Cfg} {s : State} {c : Nat} (hx : s.conn c = none) : step cfg s (.lost c) = s := by
  simp only [step, hx]

theorem step_lost {cfg : Cfg} {s : State} {c : Nat} {x : Conn} (hx : s.conn c = some x) :
    step cfg s (.lost c) = if x.gone then s else lostConn s c := by
  simp only [step, hx]

theorem lostConn_gone {s : State} {c : Nat} {x : Conn} (hx : (lostConn s c).conn c = some x) : x.gone = true := by
  simp only [lostConn, markGone, upd_conn, if_true, Option.map_eq_some_iff] at hx
  obtain ⟨_, _, rfl⟩ := hx
  rfl

end Hpfeeds.Broker
