/-
  The fan-out loop of `Server.publish`, for any set `F` of transports that refuse the write (Model/BrokerFault).  The loop
  is LOCAL: an iteration touches the record of its destination only, and what it makes of it depends on that record, on
  whether that transport refuses the write, and on the clock (`Conn.fanout`).  So over a duplicate-free list the loop maps
  `Conn.fanout` over the records of the destinations (`foldl_deliverF_conn`), and the records it leaves do not depend on
  the order of the list: the model iterates a list where the code iterates a `set`.
-/
import Hpfeeds.Lemmas.BrokerPres
namespace Hpfeeds.Broker
open Hpfeeds Extracted

theorem nodup_eraseDups (l : List Nat) : l.eraseDups.Nodup := by
  induction hn : l.length using Nat.strongRecOn generalizing l with
  | _ n ih =>
    cases l with
    | nil => simp
    | cons a as =>
      rw [List.eraseDups_cons]
      refine List.nodup_cons.mpr ⟨?_, ?_⟩
      · rw [List.mem_eraseDups]; simp
      · exact ih (as.filter fun b => !b == a).length
          (by subst hn; simp only [List.length_cons]; exact Nat.lt_succ_of_le (List.length_filter_le _ _)) _ rfl

theorem deliverF_frame (F : Nat → Bool) (f : Frame) (s : State) (a : Nat) :
    (deliverF F f s a).now = s.now ∧ (deliverF F f s a).accepted = s.accepted := by
  fun_cases deliverF F f s a
  · exact ⟨rfl, rfl⟩
  · exact connectionLost_frame s a
  · exact ⟨rfl, rfl⟩
  · exact ⟨rfl, rfl⟩

theorem foldl_deliverF_now (F : Nat → Bool) (f : Frame) (l : List Nat) (s : State) :
    (l.foldl (deliverF F f) s).now = s.now :=
  foldl_pres (P := fun t : State => t.now = s.now) (fun t a h => (deliverF_frame F f t a).1.trans h) l rfl

theorem foldl_deliverF_accepted (F : Nat → Bool) (f : Frame) (l : List Nat) (s : State) :
    (l.foldl (deliverF F f) s).accepted = s.accepted :=
  foldl_pres (P := fun t : State => t.accepted = s.accepted) (fun t a h => (deliverF_frame F f t a).2.trans h) l rfl

/-- what the iteration of the loop for a destination makes of its record; `b`: its transport refuses the write -/
def Conn.fanout (b : Bool) (f : Frame) (t : Nat) (y : Conn) : Conn :=
  if y.closing then y.forgotten
  else if b then { y.beginClose with out := y.out ++ [(t, .close)] }
  else { y with out := y.out ++ [(t, .write f)] }

theorem deliverF_conn (F : Nat → Bool) (f : Frame) (s : State) (a d : Nat) :
    (deliverF F f s a).conn d = if d = a then (s.conn d).map (Conn.fanout (F a) f s.now) else s.conn d := by
  split
  · rename_i hd; subst hd
    fun_cases deliverF F f s d with
    | case1 hx => rw [hx]; rfl
    | case2 x hx hc => rw [connectionLost_conn hx, hx, Option.map_some, Conn.fanout, if_pos hc]
    | case3 x hx hc hF => rw [closeT_conn_eq hx, hx, Option.map_some, Conn.fanout, if_neg hc, if_neg hc, if_pos hF]
    | case4 x hx hc hF => rw [logAct_conn_self hx, hx, Option.map_some, Conn.fanout, if_neg hc, if_neg hF]
  · rename_i hd
    fun_cases deliverF F f s a
    · rfl
    · exact connectionLost_conn_ne hd
    · simp [closeT, hd]
    · simp [logAct, hd]

theorem deliver_conn_ne (f : Frame) (s : State) {a d : Nat} (hd : d ≠ a) : (deliver f s a).conn d = s.conn d := by
  rw [← deliverF_none, deliverF_conn, if_neg hd]

theorem foldl_deliverF_conn (F : Nat → Bool) (f : Frame) {l : List Nat} (hnd : l.Nodup) (s : State) (d : Nat) :
    (l.foldl (deliverF F f) s).conn d =
      if d ∈ l then (s.conn d).map (Conn.fanout (F d) f s.now) else s.conn d := by
  induction l generalizing s with
  | nil => rfl
  | cons a l ih =>
    have ⟨ha, hl⟩ := List.nodup_cons.mp hnd
    rw [List.foldl_cons, ih hl, (deliverF_frame F f s a).1, deliverF_conn]
    by_cases hda : d = a
    · subst hda; simp [ha]
    · simp [hda]

theorem foldl_deliverF_conn_in (F : Nat → Bool) (f : Frame) (l : List Nat) (hnd : l.Nodup) (s : State) {d : Nat}
    (hd : d ∈ l) : (l.foldl (deliverF F f) s).conn d = (deliverF F f s d).conn d := by
  rw [foldl_deliverF_conn F f hnd, if_pos hd, deliverF_conn, if_pos rfl]

theorem publishF_conn (F : Nat → Bool) (s : State) (src : Nat) (x : Conn) (i ch p : Bytes) (d : Nat) :
    (publishF F s src x i ch p).conn d =
      if d ∈ s.subs ch then (s.conn d).map (Conn.fanout (F d) (pubFrame i ch p) s.now) else s.conn d :=
  (foldl_deliverF_conn F _ (nodup_eraseDups _) s d).trans (by simp only [List.mem_eraseDups])

/-- what `Server.publish` can do to a record: append to its log, or (if it is closing) forget it -/
structure DRel (y y' : Conn) (extra : List (Nat × Act)) : Prop where
  eq : y' = { y with out := y.out ++ extra, active := y'.active, registered := y'.registered,
                      lostAs := y'.lostAs }
  active : ∀ ch ∈ y'.active, ch ∈ y.active
  reg : (y'.registered = y.registered ∧ y'.active = y.active) ∨ (y.closing = true ∧ y'.registered = false)

theorem DRel.closing {y y' : Conn} {e} (h : DRel y y' e) : y'.closing = y.closing := by rw [h.eq]
theorem DRel.granted {y y' : Conn} {e} (h : DRel y y' e) : y'.granted = y.granted := by rw [h.eq]
theorem DRel.pubsAtClose {y y' : Conn} {e} (h : DRel y y' e) : y'.pubsAtClose = y.pubsAtClose := by rw [h.eq]
theorem DRel.out {y y' : Conn} {e} (h : DRel y y' e) : y'.out = y.out ++ e := by rw [h.eq]

theorem DRel.refl (y : Conn) : DRel y y [] := ⟨by simp, fun _ h => h, Or.inl ⟨rfl, rfl⟩⟩

theorem DRel.trans {a b c : Conn} {e1 e2 : List (Nat × Act)} (h1 : DRel a b e1) (h2 : DRel b c e2) :
    DRel a c (e1 ++ e2) := by
  refine ⟨?_, fun ch h => h1.active ch (h2.active ch h), ?_⟩
  · have e2' := h2.eq
    rw [h1.eq] at e2'
    rw [e2']
    simp [List.append_assoc]
  · rcases h2.reg with ⟨h, ha⟩ | ⟨h, h'⟩
    · rw [h, ha]; exact h1.reg
    · right; rw [h1.closing] at h; exact ⟨h, h'⟩

theorem Conn.fanout_spec (b : Bool) (f : Frame) (t : Nat) (y : Conn) :
    DRel y (y.fanout b f t) (if y.closing = false ∧ b = false then [(t, .write f)] else []) ∨
      (y.closing = false ∧ b = true ∧ y.fanout b f t = { y.beginClose with out := y.out ++ [(t, .close)] }) := by
  unfold Conn.fanout
  cases hc : y.closing with
  | true =>
    refine .inl ?_
    simp only [if_true, Bool.true_eq_false, false_and, if_false, Conn.forgotten]
    split
    · exact ⟨by simp [hc], nofun, .inr ⟨hc, rfl⟩⟩
    · exact .refl y
  | false =>
    cases b with
    | true => exact .inr ⟨rfl, rfl, rfl⟩
    | false => exact .inl ⟨by simp [hc], fun _ h => h, .inl ⟨rfl, rfl⟩⟩

theorem foldl_deliverF_spec (F : Nat → Bool) (f : Frame) (l : List Nat) (hnd : l.Nodup) (s : State) :
    (∀ d y, s.conn d = some y → ∃ y', (l.foldl (deliverF F f) s).conn d = some y' ∧
      (DRel y y' (if d ∈ l ∧ y.closing = false ∧ F d = false then [(s.now, .write f)] else []) ∨
       (d ∈ l ∧ y.closing = false ∧ F d = true ∧
         y' = { y.beginClose with out := y.out ++ [(s.now, .close)] }))) ∧
    (∀ d, s.conn d = none → (l.foldl (deliverF F f) s).conn d = none) := by
  refine ⟨fun d y hy => ?_, fun d hd => ?_⟩ <;> rw [foldl_deliverF_conn F f hnd]
  · by_cases hdl : d ∈ l <;> simp only [hdl, hy, if_true, if_false, true_and, false_and, Option.map_some]
    · exact ⟨_, rfl, y.fanout_spec (F d) f s.now⟩
    · exact ⟨y, rfl, .inl (.refl y)⟩
  · rw [hd]; split <;> rfl

end Hpfeeds.Broker
