/-
  The induction principle of the broker model: a predicate on states that holds initially and is preserved by each named
  primitive, under the facts available where the model applies it, holds in every reachable state, for ALL event
  histories.  The handler, the frame loop and the transition function are walked ONCE, with the fan-out function as a
  parameter (Model/BrokerFault.lean); `loop` and `step` are the instance `pub := publish`.
-/
import Hpfeeds.Lemmas.BrokerHandler
import Hpfeeds.Lemmas.BrokerEqns
namespace Hpfeeds.Broker
open Hpfeeds Extracted

def NonPub (a : Act) : Prop := ∀ f, a = .write f → f.op.toNat ≠ OP_PUBLISH

/-- what the handlers log through `logAct` directly; every other mark is logged inside the primitive it belongs to -/
inductive Plain : Act → Prop
  | err : Plain (.write errFrame)
  | limits (hi : Nat) : Plain (.setLimits hi)

theorem Plain.nonPub {a : Act} (h : Plain a) : NonPub a := by
  cases h <;> intro f hf <;> cases hf
  decide

structure PresAt (cfg : Cfg) (c : Nat) (P : State → Prop) : Prop where
  logAct : ∀ s a, Plain a → P s → P (logAct s c a)
  closeT : ∀ s, P s → P (closeT s c)
  crashClose : ∀ s, P s → P (crashClose s c)
  doSubscribe : ∀ s ch ok x, s.conn c = some x → x.registered = true → x.ak ≠ none →
    (ok = true ↔ ch ∈ x.subchans) → (ok = false → x.closing = true) → P s → P (doSubscribe s c ch ok)
  doUnsubscribe : ∀ s ch x, s.conn c = some x → x.registered = true → x.ak ≠ none → P s →
    P (doUnsubscribe s c ch)
  setAuth : ∀ s i d row x, s.conn c = some x → cfg.H (x.nonce ++ row.secret) = d → P s →
    P (setAuth s c i d row)
  pauseReading : ∀ s, P s → P (pauseReading s c)
  resumeReading : ∀ s, P s → P (resumeReading s c)
  addPending : ∀ s i d, P s → P (addPending s c i d)
  dropPending : ∀ s i, P s → P (dropPending s c i)
  setBuf : ∀ s b, P s → P (setBuf s c b)
  publish : ∀ s x i ch p, s.conn c = some x → x.ak = some i → ch ∈ x.pubchans → x.registered = true →
    P s → P (publish s c x i ch p)
  addConn : ∀ s n, s.conn c = none → P s → P (addConn cfg s c n)
  peerClose : ∀ s, P s → P (peerClose s c)
  lostConn : ∀ s x, s.conn c = some x → x.gone = false → P s → P (lostConn s c)
  armDeadline : ∀ s, P s → P (armDeadline s c)
  clearDeadline : ∀ s a, (a = .resumedW ∨ a = .deadlineFired) → P s → P (clearDeadline s c a)

structure Pres (cfg : Cfg) (P : State → Prop) : Prop where
  prim : ∀ c, PresAt cfg c P
  tick : ∀ s ms, P s → P (tick s ms)

variable {cfg : Cfg} {P : State → Prop} {c : Nat}

theorem pres_errorClose (hp : PresAt cfg c P) (s : State) (h : P s) : P (errorClose s c) :=
  hp.closeT _ (hp.logAct _ _ .err h)

/-- `x` is the record the caller read, `x0` the one in the state: when a store answers, `dropPending` has rewritten
    the record in between.  `authenticate` reads only the nonce of `x`. -/
theorem pres_authenticate (hp : PresAt cfg c P) (s : State) (x x0 : Conn) (i d : Bytes) (r : Lookup)
    (hx : s.conn c = some x0) (hn : x0.nonce = x.nonce) (h : P s) :
    P (authenticate cfg s c x i d r).1 := by
  unfold authenticate
  split
  · rename_i row hok
    have := (authOk_spec hok).2
    exact hp.logAct _ _ (.limits _) (hp.setAuth _ _ _ _ x0 hx (by rw [hn]; exact this) h)
  · exact pres_errorClose hp _ h

def PubPres (pub : Pub) (c : Nat) (P : State → Prop) : Prop :=
  ∀ s x i ch p, s.conn c = some x → x.ak = some i → ch ∈ x.pubchans → x.registered = true → P s → P (pub s c x i ch p)

variable {pub : Pub}

theorem pres_messageReceivedG (hp : PresAt cfg c P) (hpub : PubPres pub c P) (s : State) (f : Frame) (h : P s) :
    P (messageReceivedG pub cfg s c f).1 := by
  -- the cases in the order of the model's text: 1 no record, 2 not authenticated, 3 unknown opcode, 4 a reader raises,
  -- 5 OP_ERROR, 6 OP_INFO, 7 to 9 OP_AUTH (unregistered, synchronous store, asynchronous store), 10 to 13 OP_PUBLISH
  -- (foreign ident, forbidden channel, unregistered, accepted), 14 and 15 OP_SUBSCRIBE (unregistered, registered),
  -- 16 and 17 OP_UNSUBSCRIBE (unregistered, registered)
  fun_cases messageReceivedG pub cfg s c f with
  | case1 | case4 | case5 | case6 | case7 | case12 | case16 => exact h
  | case2 | case10 | case11 => exact pres_errorClose hp _ h
  | case3 => exact hp.closeT _ h
  | case8 x hx => exact pres_authenticate hp _ x _ _ _ _ hx rfl h
  | case9 => exact hp.pauseReading _ (hp.addPending _ _ _ h)
  | case13 x hx _ i ch p h1 h2 h3 =>
    exact hpub _ _ _ _ _ hx (Decidable.not_not.mp h1).symm (Decidable.not_not.mp h2) (by simpa using h3) h
  | case14 x =>
    show P (if _ ∈ x.subchans then s else errorClose s c)
    split
    · exact h
    · exact pres_errorClose hp _ h
  | case15 x hx hpre i ch s1 hreg hm =>
    have hak := ((past_preauth hm).mp hpre).resolve_right (by simp only [msgOpcode]; decide)
    have hreg : x.registered = true := by simpa using hreg
    by_cases hsub : ch ∈ x.subchans
    · rw [show s1 = s from if_pos hsub]
      exact hp.doSubscribe _ _ _ x hx hreg hak (by simp [hsub]) (by simp [hsub]) h
    · -- no `return` after the error: the request is registered on the record `errorClose` left
      rw [show s1 = errorClose s c from if_neg hsub]
      exact hp.doSubscribe _ _ _ _ (errorClose_conn_eq hx) hreg hak (by simp [hsub]) (fun _ => rfl)
        (pres_errorClose hp _ h)
  | case17 x hx hpre i ch hreg hm =>
    exact hp.doUnsubscribe _ _ x hx (by simpa using hreg)
      (((past_preauth hm).mp hpre).resolve_right (by simp only [msgOpcode]; decide)) h

theorem pres_loopG (hp : PresAt cfg c P) (hpub : PubPres pub c P) (s : State) (buf : Bytes) (h : P s) :
    P (loopG pub cfg c s buf).1 := by
  fun_induction loopG pub cfg c s buf with
  | case1 => exact h
  | case2 => exact hp.closeT _ h
  | case3 s _ _ _ _ _ _ ih => exact ih (pres_messageReceivedG hp hpub s _ h)
  | case4 s => exact pres_messageReceivedG hp hpub s _ h

def Event.target : Event → Option Nat
  | .connect c _ => some c
  | .data c _ => some c
  | .eof c => some c
  | .lost c => some c
  | .lookupDone c _ _ => some c
  | .pause c => some c
  | .resume c => some c
  | .fire c => some c
  | .advance _ => none

theorem pres_verdict {c : Nat} (hp : PresAt cfg c P) {s : State} {x : Conn} (hx : s.conn c = some x) (i : Nat)
    (ident digest : Bytes) (r : Lookup) (h : P s) :
    P (authenticate cfg (dropPending s c i) c x ident digest r).1 :=
  pres_authenticate hp (dropPending s c i) x _ ident digest r (upd_conn_self hx) rfl (hp.dropPending s i h)

theorem pres_stepG_at (s : State) (e : Event) (hp : ∀ c, e.target = some c → PresAt cfg c P)
    (hpub : ∀ c, e.target = some c → PubPres pub c P)
    (ht : ∀ ms, e = .advance ms → P s → P (tick s ms)) (h : P s) : P (stepG pub cfg s e) := by
  -- 1 to 3: `data` (no record, a handler crashed, otherwise); 4 to 9: `lookupDone` (no record, no such look-up, then the
  -- verdict: accepted and a parked frame crashed / parked again / reading resumed, refused); 10: every other event
  fun_cases stepG pub cfg s e with
  | case1 | case4 | case5 => exact h
  | case2 c b x hx =>
    have hp := hp c rfl
    exact hp.crashClose _ (hp.setBuf _ _ (pres_loopG hp (hpub c rfl) s _ h))
  | case3 c b x hx =>
    have hp := hp c rfl
    exact hp.setBuf _ _ (pres_loopG hp (hpub c rfl) s _ h)
  | case6 c i r x hx ident digest =>
    have hp := hp c rfl
    exact hp.closeT _ (hp.setBuf _ _ (pres_loopG hp (hpub c rfl) _ _ (pres_verdict hp hx i ident digest r h)))
  | case7 c i r x hx ident digest =>
    have hp := hp c rfl
    exact hp.setBuf _ _ (pres_loopG hp (hpub c rfl) _ _ (pres_verdict hp hx i ident digest r h))
  | case8 c i r x hx ident digest =>
    have hp := hp c rfl
    exact hp.resumeReading _ (hp.setBuf _ _ (pres_loopG hp (hpub c rfl) _ _ (pres_verdict hp hx i ident digest r h)))
  | case9 c i r x hx ident digest => exact pres_verdict (hp c rfl) hx i ident digest r h
  | case10 e hd hl =>
    -- the other events never reach `Server.publish`; in the order of `step`'s text: `connect` (1, 2), `data` (3 to 5),
    -- `eof` (6), `lost` (7 to 9), `lookupDone` (10 to 15), `pause` (16), `resume` (17 to 19), `fire` (20 to 23), `advance`
    fun_cases step cfg s e with
    | case1 | case7 | case8 | case17 | case19 | case20 | case21 | case23 => exact h
    | case3 | case4 | case5 => exact absurd rfl (hd _ _)
    | case10 | case11 | case12 | case13 | case14 | case15 => exact absurd rfl (hl _ _ _)
    | case2 c n hc => exact (hp c rfl).addConn _ _ hc h
    | case6 c => exact (hp c rfl).peerClose _ h
    | case9 c x hx hg => exact (hp c rfl).lostConn _ x hx (by simpa using hg) h
    | case16 c => exact (hp c rfl).armDeadline _ h
    | case18 c => exact (hp c rfl).clearDeadline _ _ (.inl rfl) h
    | case22 c => exact pres_errorClose (hp c rfl) _ ((hp c rfl).clearDeadline _ _ (.inr rfl) h)
    | case24 ms => exact ht ms rfl h

theorem stepG_publish (cfg : Cfg) (s : State) (e : Event) : stepG publish cfg s e = step cfg s e := by
  cases e <;> simp only [stepG, step, loopG_publish] <;> rfl

theorem pres_step (hp : Pres cfg P) (s : State) (e : Event) (h : P s) : P (step cfg s e) :=
  stepG_publish cfg s e ▸ pres_stepG_at s e (fun c _ => hp.prim c) (fun c _ => (hp.prim c).publish)
    (fun ms _ h => hp.tick s ms h) h

theorem deliverF_none (f : Frame) : deliverF (fun _ => false) f = deliver f := by
  funext s d
  unfold deliverF deliver
  cases s.conn d with
  | none => rfl
  | some x => simp

theorem publishF_none : publishF (fun _ => false) = publish := by
  funext s src x ident ch p
  simp only [publishF, publish, deliverF_none, Bool.not_false, Bool.and_true]
  rfl

theorem stepF_none (cfg : Cfg) (s : State) (e : Event) : stepF (fun _ => false) cfg s e = step cfg s e := by
  unfold stepF; rw [publishF_none]; exact stepG_publish cfg s e

theorem pres_run (hp : Pres cfg P) (h0 : P init) (es : List Event) : P (run cfg es) :=
  foldl_pres (pres_step hp) es h0

@[simp] theorem withStore_H (cfg : Cfg) (st : Store) : (cfg.withStore st).H = cfg.H := rfl
@[simp] theorem withStore_name (cfg : Cfg) (st : Store) : (cfg.withStore st).name = cfg.name := rfl
@[simp] theorem withStore_store (cfg : Cfg) (st : Store) : (cfg.withStore st).store = st := rfl
theorem withStore_self (cfg : Cfg) : cfg.withStore cfg.store = cfg := rfl

theorem run_eq_runS (cfg : Cfg) (es : List Event) : run cfg es = runS cfg (es.map fun e => (cfg.store, e)) := by
  unfold run runS
  rw [List.foldl_map]
  rfl

theorem runS_eq_runF (cfg : Cfg) (es : List (Store × Event)) :
    runS cfg es = runF cfg (es.map fun e => (e.1, [], e.2)) := by
  unfold runS runF
  rw [List.foldl_map]
  have : (fun d : Nat => decide (d ∈ ([] : List Nat))) = fun _ => false := by funext d; simp
  simp only [this, stepF_none]

theorem pres_runS {P : State → Prop} (cfg : Cfg) (hp : ∀ st, Pres (cfg.withStore st) P) (h0 : P init)
    (es : List (Store × Event)) : P (runS cfg es) :=
  foldl_pres (fun s e h => pres_step (hp e.1) s e.2 h) es h0

theorem pres_runF {P : State → Prop} (cfg : Cfg) (hp : ∀ st, Pres (cfg.withStore st) P)
    (hpub : ∀ F c, PubPres (publishF F) c P) (h0 : P init) (es : List (Store × List Nat × Event)) :
    P (runF cfg es) :=
  foldl_pres (fun s e h => pres_stepG_at s e.2.2 (fun c _ => (hp e.1).prim c) (fun c _ => hpub _ c)
    (fun ms _ h => (hp e.1).tick s ms h) h) es h0

end Hpfeeds.Broker
