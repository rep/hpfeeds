/-
  What the primitives do to ONE connection record.  Eleven of the seventeen primitives of `PresAt` change only the
  transport side of the record of their connection, by steps of five kinds (`TStep`); `TUpd c s s'` says that `s'` is
  `s` with the record of `c` moved by such steps, and `presAt_ofTUpd` turns ONE lemma about `TUpd` into those eleven
  fields.
-/
import Hpfeeds.Lemmas.BrokerPres
namespace Hpfeeds.Broker
open Hpfeeds Extracted

inductive Steps {α : Type} (r : α → α → Prop) : α → α → Prop
  | refl (a : α) : Steps r a a
  | tail {a b c : α} : Steps r a b → r b c → Steps r a c

namespace Steps
variable {α : Type} {r : α → α → Prop} {a b c : α}

theorem single (h : r a b) : Steps r a b := .tail (.refl a) h

theorem trans (h1 : Steps r a b) (h2 : Steps r b c) : Steps r a c := by
  induction h2 with
  | refl => exact h1
  | tail _ h ih => exact .tail ih h

theorem rel {R : α → α → Prop} (hr : ∀ a, R a a) (ht : ∀ a b c, R a b → R b c → R a c)
    (hs : ∀ a b, r a b → R a b) (h : Steps r a b) : R a b := by
  induction h with
  | refl => exact hr _
  | tail _ h ih => exact ht _ _ _ ih (hs _ _ h)

theorem lift {I : α → Prop} (hs : ∀ a b, r a b → I a → I b) (h : Steps r a b) (k : I a) : I b := by
  induction h with
  | refl => exact k
  | tail _ h ih => exact hs _ _ h ih

theorem mono {r' : α → α → Prop} (hs : ∀ a b, r a b → r' a b) (h : Steps r a b) : Steps r' a b := by
  induction h with
  | refl => exact .refl _
  | tail _ h ih => exact .tail ih (hs _ _ h)
end Steps

/-- an action that does not begin or end a stall episode -/
def Quiet (a : Act) : Prop := a ≠ .pausedW ∧ a ≠ .resumedW ∧ a ≠ .deadlineFired

theorem Plain.quiet {a : Act} (h : Plain a) : Quiet a := by
  cases h <;> exact ⟨nofun, nofun, nofun⟩

/-- `log` excludes twice: the delivery facts read `NonPub` (the publications in `out` stay), the stall facts `Quiet`
    (no episode begins or ends). -/
inductive TStep (t : Nat) : Conn → Conn → Prop
  | log (x : Conn) (a : Act) : NonPub a → Quiet a → TStep t x { x with out := x.out ++ [(t, a)] }
  | close (x : Conn) : x.closing = false →
      TStep t x { x with closing := true, pubsAtClose := some (pubFrames x.out) }
  | idle (x : Conn) (p : Bool) (l : List (Bytes × Bytes)) (b : Bytes) :
      TStep t x { x with paused := p, pending := l, buf := b }
  | arm (x : Conn) :
      TStep t x { x with deadline := some (t + gracePeriodMs), out := x.out ++ [(t, .pausedW)] }
  | disarm (x : Conn) (a : Act) : a = .resumedW ∨ a = .deadlineFired →
      TStep t x { x with deadline := none, out := x.out ++ [(t, a)] }

def SameSession (x y : Conn) : Prop :=
  y = { x with out := y.out, closing := y.closing, pubsAtClose := y.pubsAtClose, paused := y.paused,
               pending := y.pending, buf := y.buf, deadline := y.deadline } ∧
  (x.closing = true → y.closing = true)

theorem SameSession.refl (x : Conn) : SameSession x x := ⟨rfl, id⟩

theorem SameSession.trans {x y z : Conn} (h1 : SameSession x y) (h2 : SameSession y z) : SameSession x z := by
  refine ⟨?_, fun h => h2.2 (h1.2 h)⟩
  have e := h2.1
  rw [h1.1] at e
  exact e

theorem TStep.session {t : Nat} {x y : Conn} (h : TStep t x y) : SameSession x y := by
  cases h with
  | close => exact ⟨rfl, fun _ => rfl⟩
  | _ => exact ⟨rfl, id⟩

theorem TSteps.session {t : Nat} {x y : Conn} (h : Steps (TStep t) x y) : SameSession x y :=
  h.rel SameSession.refl (fun _ _ _ => SameSession.trans) fun _ _ => TStep.session

def TUpd (c : Nat) (s s' : State) : Prop := ∃ f, s' = s.upd c f ∧ ∀ x, Steps (TStep s.now) x (f x)

theorem TUpd.refl (c : Nat) (s : State) : TUpd c s s := ⟨id, (upd_id s c).symm, fun x => .refl x⟩

theorem TUpd.trans {c : Nat} {s1 s2 s3 : State} (h1 : TUpd c s1 s2) (h2 : TUpd c s2 s3) : TUpd c s1 s3 := by
  obtain ⟨f, rfl, hf⟩ := h1
  obtain ⟨g, rfl, hg⟩ := h2
  exact ⟨g ∘ f, upd_upd .., fun x => (hf x).trans (hg (f x))⟩

theorem TUpd.frame {c : Nat} {s s' : State} (q : TUpd c s s') :
    s'.now = s.now ∧ s'.accepted = s.accepted ∧ ∀ d, d ≠ c → s'.conn d = s.conn d := by
  obtain ⟨f, rfl, _⟩ := q
  exact ⟨rfl, rfl, fun d hd => by simp [hd]⟩

theorem TUpd.fwd {c : Nat} {s s' : State} (q : TUpd c s s') {d : Nat} {y : Conn} (hy : s.conn d = some y) :
    ∃ y', s'.conn d = some y' ∧ Steps (TStep s.now) y y' := by
  obtain ⟨f, rfl, hf⟩ := q
  by_cases hd : d = c
  · subst hd; exact ⟨f y, upd_conn_self hy, hf y⟩
  · exact ⟨y, by simp [hd, hy], .refl y⟩

theorem TUpd.back {c : Nat} {s s' : State} (q : TUpd c s s') {d : Nat} {y' : Conn} (hy' : s'.conn d = some y') :
    ∃ y, s.conn d = some y ∧ Steps (TStep s.now) y y' := by
  obtain ⟨f, rfl, hf⟩ := q
  rw [upd_conn] at hy'
  split at hy'
  · obtain ⟨y, hy, rfl⟩ := Option.map_eq_some_iff.mp hy'
    exact ⟨y, hy, hf y⟩
  · exact ⟨y', hy', .refl y'⟩

theorem tupd_step (s : State) (c : Nat) {f : Conn → Conn} (hf : ∀ x, TStep s.now x (f x)) : TUpd c s (s.upd c f) :=
  ⟨f, rfl, fun x => .single (hf x)⟩

theorem tupd_logAct (s : State) (c : Nat) (a : Act) (hp : NonPub a) (hq : Quiet a) : TUpd c s (logAct s c a) :=
  tupd_step s c fun x => .log x a hp hq

theorem steps_beginClose (t : Nat) (x : Conn) : Steps (TStep t) x x.beginClose := by
  rcases Bool.eq_false_or_eq_true x.closing with hc | hc
  · rw [beginClose_of_closing hc]; exact .refl x
  · rw [beginClose_of_open hc]; exact .single (.close x hc)

theorem tupd_beginClose (s : State) (c : Nat) : TUpd c s (s.upd c Conn.beginClose) :=
  ⟨_, rfl, steps_beginClose s.now⟩

theorem tupd_idle (s : State) (c : Nat) {f : Conn → Conn}
    (hf : ∀ x, f x = { x with paused := (f x).paused, pending := (f x).pending, buf := (f x).buf }) :
    TUpd c s (s.upd c f) :=
  tupd_step s c fun x => hf x ▸ .idle x _ _ _

theorem tupd_closeT (s : State) (c : Nat) : TUpd c s (closeT s c) := by
  refine ⟨_, rfl, fun x => ?_⟩
  rcases Bool.eq_false_or_eq_true x.closing with hc | hc
  · rw [if_pos hc]; exact .refl x
  · rw [if_neg (by simp [hc]), beginClose_of_open hc]
    exact (Steps.single (.close x hc)).tail (.log _ .close nofun ⟨nofun, nofun, nofun⟩)

theorem tupd_crashClose (s : State) (c : Nat) : TUpd c s (crashClose s c) :=
  (tupd_logAct s c .crashed nofun ⟨nofun, nofun, nofun⟩).trans (tupd_beginClose _ c)

theorem tupd_peerClose (s : State) (c : Nat) : TUpd c s (peerClose s c) := by
  fun_cases peerClose s c
  · exact .refl c s
  · exact .refl c s
  · exact (tupd_logAct s c .peerClosed nofun ⟨nofun, nofun, nofun⟩).trans (tupd_beginClose _ c)

def Conn.peerClosed (t : Nat) (x : Conn) : Conn :=
  { x with
    out := if x.closing then x.out else x.out ++ [(t, .peerClosed)]
    closing := true
    pubsAtClose := if x.closing then x.pubsAtClose else some (pubFrames (x.out ++ [(t, .peerClosed)])) }

theorem peerClose_conn_eq {s : State} {c : Nat} {x : Conn} (hx : s.conn c = some x) :
    (peerClose s c).conn c = some (x.peerClosed s.now) := by
  unfold peerClose Conn.peerClosed; rw [hx]
  cases hc : x.closing
  · simp [logAct, hx, Conn.beginClose, hc]
  · simp [hx, ← hc]

theorem Conn.peerClosed_spec (t : Nat) (x : Conn) : Steps (TStep t) x (x.peerClosed t) := by
  unfold Conn.peerClosed
  rcases Bool.eq_false_or_eq_true x.closing with hc | hc
  · rw [if_pos hc, if_pos hc, ← hc]; exact .refl x
  · rw [if_neg (by simp [hc]), if_neg (by simp [hc])]
    exact (Steps.single (.log x .peerClosed nofun ⟨nofun, nofun, nofun⟩)).tail (.close _ (by exact hc))

theorem tupd_pauseReading (s : State) (c : Nat) : TUpd c s (pauseReading s c) := by
  fun_cases pauseReading s c
  · exact .refl c s
  · exact (tupd_idle s c fun _ => rfl).trans (tupd_logAct _ c .pauseReading nofun ⟨nofun, nofun, nofun⟩)
  · exact .refl c s

theorem tupd_resumeReading (s : State) (c : Nat) : TUpd c s (resumeReading s c) := by
  fun_cases resumeReading s c
  · exact .refl c s
  · exact (tupd_idle s c fun _ => rfl).trans (tupd_logAct _ c .resumeReading nofun ⟨nofun, nofun, nofun⟩)
  · exact .refl c s

theorem tupd_armDeadline (s : State) (c : Nat) : TUpd c s (armDeadline s c) :=
  ⟨_, upd_upd .., fun x => .single (.arm x)⟩

theorem tupd_clearDeadline (s : State) (c : Nat) {a : Act} (ha : a = .resumedW ∨ a = .deadlineFired) :
    TUpd c s (clearDeadline s c a) :=
  ⟨_, upd_upd .., fun x => .single (.disarm x a ha)⟩

theorem tupd_errorClose (s : State) (c : Nat) : TUpd c s (errorClose s c) :=
  (tupd_logAct s c _ Plain.err.nonPub Plain.err.quiet).trans (tupd_closeT _ c)

theorem presAt_ofTUpd {cfg : Cfg} {c : Nat} {P : State → Prop}
    (transport : ∀ s s', TUpd c s s' → P s → P s')
    (doSubscribe : ∀ s ch ok x, s.conn c = some x → x.registered = true → x.ak ≠ none →
      (ok = true ↔ ch ∈ x.subchans) → (ok = false → x.closing = true) → P s → P (doSubscribe s c ch ok))
    (doUnsubscribe : ∀ s ch x, s.conn c = some x → x.registered = true → x.ak ≠ none → P s →
      P (doUnsubscribe s c ch))
    (setAuth : ∀ s i d row x, s.conn c = some x → cfg.H (x.nonce ++ row.secret) = d → P s →
      P (setAuth s c i d row))
    (publish : PubPres publish c P)
    (addConn : ∀ s n, s.conn c = none → P s → P (addConn cfg s c n))
    (lostConn : ∀ s x, s.conn c = some x → x.gone = false → P s → P (lostConn s c)) :
    PresAt cfg c P where
  logAct := fun s _ pa => transport _ _ (tupd_logAct s c _ pa.nonPub pa.quiet)
  closeT := fun s => transport _ _ (tupd_closeT s c)
  crashClose := fun s => transport _ _ (tupd_crashClose s c)
  pauseReading := fun s => transport _ _ (tupd_pauseReading s c)
  resumeReading := fun s => transport _ _ (tupd_resumeReading s c)
  addPending := fun s _ _ => transport _ _ (tupd_idle s c fun _ => rfl)
  dropPending := fun s _ => transport _ _ (tupd_idle s c fun _ => rfl)
  setBuf := fun s _ => transport _ _ (tupd_idle s c fun _ => rfl)
  peerClose := fun s => transport _ _ (tupd_peerClose s c)
  armDeadline := fun s => transport _ _ (tupd_armDeadline s c)
  clearDeadline := fun s _ ha => transport _ _ (tupd_clearDeadline s c ha)
  doSubscribe := doSubscribe
  doUnsubscribe := doUnsubscribe
  setAuth := setAuth
  publish := publish
  addConn := addConn
  lostConn := lostConn

end Hpfeeds.Broker
