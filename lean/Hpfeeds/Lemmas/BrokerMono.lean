/-
  What no transition of the broker model undoes (`ConnMono`): a connection record never disappears; `gone`, `closing`,
  `registered = false` and being authenticated stay; the nonce never changes; the action log only grows.
-/
import Hpfeeds.Lemmas.BrokerMoves
namespace Hpfeeds.Broker
open Hpfeeds Extracted

structure ConnMono (y y' : Conn) : Prop where
  gone : y.gone = true → y'.gone = true
  closing : y.closing = true → y'.closing = true
  unreg : y.registered = false → y'.registered = false
  nonce : y'.nonce = y.nonce
  ak : y.ak.isSome = true → y'.ak.isSome = true
  out : y.out <+: y'.out
  atClose : y.closing = true → y'.pubsAtClose = y.pubsAtClose

theorem ConnMono.refl (y : Conn) : ConnMono y y :=
  ⟨id, id, id, rfl, id, List.prefix_refl _, fun _ => rfl⟩

theorem ConnMono.trans {a b c : Conn} (h1 : ConnMono a b) (h2 : ConnMono b c) : ConnMono a c :=
  ⟨fun h => h2.gone (h1.gone h), fun h => h2.closing (h1.closing h), fun h => h2.unreg (h1.unreg h),
   by rw [h2.nonce, h1.nonce], fun h => h2.ak (h1.ak h), h1.out.trans h2.out,
   fun h => by rw [h2.atClose (h1.closing h), h1.atClose h]⟩

def Mono (s s' : State) : Prop :=
  ∀ d y, s.conn d = some y → ∃ y', s'.conn d = some y' ∧ ConnMono y y'

theorem Mono.refl (s : State) : Mono s s := fun _ y h => ⟨y, h, ConnMono.refl y⟩

theorem Mono.trans {a b c : State} (h1 : Mono a b) (h2 : Mono b c) : Mono a c := by
  intro d y hy
  obtain ⟨y1, hy1, m1⟩ := h1 d y hy
  obtain ⟨y2, hy2, m2⟩ := h2 d y1 hy1
  exact ⟨y2, hy2, m1.trans m2⟩

theorem TStep.connMono {t : Nat} {x y : Conn} (h : TStep t x y) : ConnMono x y := by
  cases h with
  | close hc => exact ⟨id, fun _ => rfl, id, rfl, id, List.prefix_refl _, fun h => absurd (hc ▸ h) nofun⟩
  | idle => exact ⟨id, id, id, rfl, id, List.prefix_refl _, fun _ => rfl⟩
  | _ => exact ⟨id, id, id, rfl, id, List.prefix_append .., fun _ => rfl⟩

theorem RecStep.connMono {H : Bytes → Bytes} {t : Nat} {x y : Conn} (h : RecStep H t x y) : ConnMono x y := by
  cases h with
  | pub => exact ⟨id, id, id, rfl, id, List.prefix_append .., fun _ => rfl⟩
  | own o =>
    cases o with
    | transport q => exact q.connMono
    | auth => exact ⟨id, id, id, rfl, fun _ => rfl, List.prefix_refl _, fun _ => rfl⟩
    | forget => exact ⟨id, id, fun _ => rfl, rfl, id, List.prefix_refl _, fun _ => rfl⟩
    | gone => exact ⟨fun _ => rfl, id, id, rfl, id, List.prefix_refl _, fun _ => rfl⟩
    | _ => exact ⟨id, id, id, rfl, id, List.prefix_refl _, fun _ => rfl⟩

theorem Moves.toMono {cfg : Cfg} {H : Bytes → Bytes} {s s' : State} (m : Moves cfg (RecStep H) s s') : Mono s s' :=
  m.rel ConnMono.refl (fun _ _ _ => ConnMono.trans) fun _ _ => RecStep.connMono

theorem mono_tupd {c : Nat} {s s' : State} (q : TUpd c s s') : Mono s s' :=
  fun _ _ hy => (q.fwd hy).imp fun _ k => ⟨k.1, k.2.rel ConnMono.refl (fun _ _ _ => .trans) fun _ _ => TStep.connMono⟩

theorem mono_errorClose (s : State) (c : Nat) : Mono s (errorClose s c) := mono_tupd (tupd_errorClose s c)

theorem mono_step (cfg : Cfg) (s : State) (e : Event) : Mono s (step cfg s e) := by
  by_cases he : ∃ ms, e = .advance ms
  · obtain ⟨ms, rfl⟩ := he; exact Mono.refl s
  · exact (moves_step cfg s e fun ms h => he ⟨ms, h⟩).toMono

def NoNew (s s' : State) : Prop := ∀ d, s.conn d = none → s'.conn d = none

theorem nonew_tupd {c : Nat} {s s' : State} (q : TUpd c s s') : NoNew s s' := by
  obtain ⟨f, rfl, _⟩ := q
  intro d hd; simp [hd]

theorem nonew_errorClose (s : State) (c : Nat) : NoNew s (errorClose s c) := nonew_tupd (tupd_errorClose s c)

theorem run_append (cfg : Cfg) (es es' : List Event) :
    run cfg (es ++ es') = es'.foldl (step cfg) (run cfg es) := by
  simp [run, List.foldl_append]

theorem mono_run_append (cfg : Cfg) (es es' : List Event) {c : Nat} {x : Conn} (hx : (run cfg es).conn c = some x) :
    ∃ y, (run cfg (es ++ es')).conn c = some y ∧ ConnMono x y :=
  run_append cfg es es' ▸
    foldl_pres (P := Mono (run cfg es)) (fun t e h => h.trans (mono_step cfg t e)) es' (Mono.refl _) c x hx

end Hpfeeds.Broker
