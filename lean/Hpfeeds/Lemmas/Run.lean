/-
  Every client model runs as `es.foldl (fun acc e => let r := step acc.1 e; (r.1, acc.2 ++ r.2)) (init, [])`:
  the state is threaded, the outputs are appended.  Induction over such a run, once.
-/
namespace Hpfeeds

variable {σ ε ω : Type} (step : σ → ε → σ × List ω)

theorem run_induction {P : σ × List ω → Prop}
    (hstep : ∀ acc e, P acc → P ((step acc.1 e).1, acc.2 ++ (step acc.1 e).2)) (es : List ε) :
    ∀ acc, P acc → P (es.foldl (fun acc e => let r := step acc.1 e; (r.1, acc.2 ++ r.2)) acc) := by
  induction es with
  | nil => exact fun _ h => h
  | cons e es ih => exact fun acc h => ih _ (hstep acc e h)

theorem run_invariant {I : σ → Prop} (hstep : ∀ s e, I s → I (step s e).1) (es : List ε) (acc : σ × List ω)
    (h : I acc.1) : I (es.foldl (fun acc e => let r := step acc.1 e; (r.1, acc.2 ++ r.2)) acc).1 :=
  run_induction step (P := fun acc => I acc.1) (fun acc e => hstep acc.1 e) es acc h

theorem run_fold {β : Type} (proj : σ → β) (g : β → ε → β) (hstep : ∀ s e, proj (step s e).1 = g (proj s) e)
    (es : List ε) :
    ∀ acc, proj (es.foldl (fun acc e => let r := step acc.1 e; (r.1, acc.2 ++ r.2)) acc).1 = es.foldl g (proj acc.1) := by
  induction es with
  | nil => exact fun _ => rfl
  | cons e es ih => exact fun acc => (ih _).trans (by rw [hstep]; rfl)

end Hpfeeds
