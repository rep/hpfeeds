/-
  Blocking Client, over ALL event sequences (application steps, environment answers, stop() at any moment, any
  callback behaviour `cfg.react`).  One summary, `Eff`, of what the code between two blocking calls may do is
  proved once for every function of the model; `step_eff` is the same for a whole step (`StepEff`); the invariants
  of C11 / C12 / C13, and C11 of the outputs for every socket ever made, are read off it (`run_inv`).
  The end of the file walks the frame loop a second time, for a fact of another kind (C13, run() returns):
  unless a callback blocks in publish(), the loop leaves pc, socket and attempt counter alone (`Calm`).
  (The goals of `fun_cases` and `fun_induction`, `case1`, `case2`, .., come in the order of the model's branches.)
-/
import Hpfeeds.Model.BlkClient
import Hpfeeds.Lemmas.Wire
import Hpfeeds.Lemmas.Run
namespace Hpfeeds.BlkClient
open Hpfeeds Extracted

def ConnPc : Pc → Prop
  | .connecting _ _ => True
  | .authRecv _ => True
  | .authSend _ _ => True
  | _ => False

def SendPc : Pc → Prop
  | .subSend _ _ _ => True
  | .pubSend _ _ => True
  | _ => False

/-- holds wherever the client is outside `connect()`/`do_auth()`: -/
structure KOK (cfg : Cfg) (s : State) : Prop where
  quiet : s.nonce = none → s.sent = []
  first : ∀ r, s.nonce = some r → ∃ rest, s.sent = authFrame cfg r :: rest
  authed : usable s = true → s.nonce.isSome = true
  pre : ConnPc s.pc → s.nonce = none
  sendp : SendPc s.pc → s.nonce.isSome = true

/-- … and everywhere -/
structure KInv (cfg : Cfg) (s : State) : Prop where
  quiet : s.nonce = none → s.sent = []
  first : ∀ r, s.nonce = some r → ∃ rest, s.sent = authFrame cfg r :: rest
  pre : ConnPc s.pc → s.nonce = none
  sendp : SendPc s.pc → s.nonce.isSome = true
  authed : (usable s = true → s.nonce.isSome = true) ∨ (∃ w, s.pc = .authRecv w) ∨ (∃ w r, s.pc = .authSend w r) ∨
    s.pc = .crashed

/-- pcs at which a usable socket need not have been authenticated -/
def AuthPc : Pc → Prop
  | .authRecv _ => True
  | .authSend _ _ => True
  | .crashed => True
  | _ => False

theorem KOK.inv {cfg : Cfg} {s : State} (h : KOK cfg s) : KInv cfg s :=
  ⟨h.quiet, h.first, h.pre, h.sendp, Or.inl h.authed⟩

theorem KInv.ok {cfg : Cfg} {s : State} (h : KInv cfg s) (hp : ¬ AuthPc s.pc) : KOK cfg s := by
  refine ⟨h.quiet, h.first, ?_, h.pre, h.sendp⟩
  rcases h.authed with a | ⟨w, a⟩ | ⟨w, r, a⟩ | a
  · exact a
  all_goals rw [a] at hp; exact absurd trivial hp

theorem kok_newSocket {cfg : Cfg} (s : State) (i : Nat) (who : Who) : KOK cfg (newSocket s i who).1 :=
  ⟨fun _ => rfl, nofun, nofun, fun _ => rfl, nofun⟩

theorem kok_append {cfg : Cfg} {s : State} (f : Bytes) (h : KOK cfg s) (hn : s.nonce.isSome = true) :
    KOK cfg { s with sent := s.sent ++ [f] } := by
  obtain ⟨r, hr⟩ := Option.isSome_iff_exists.mp hn
  obtain ⟨rest, hrest⟩ := h.first r hr
  refine ⟨fun h' => ?_, fun r' hr' => ?_, h.authed, h.pre, h.sendp⟩
  · simp only at h'; rw [hr] at h'; cases h'
  · simp only at hr' ⊢
    rw [hr] at hr'; cases hr'
    rw [hrest]; exact ⟨rest ++ [f], by simp⟩

theorem kok_authed {cfg : Cfg} {s : State} (rand : Bytes) (h : KInv cfg s) (hp : ConnPc s.pc) :
    KOK cfg { s with sent := s.sent ++ [authFrame cfg rand], nonce := some rand, pc := .idle } :=
  ⟨nofun, fun r hr => ⟨[], by cases hr; exact congrArg (· ++ _) (h.quiet (h.pre hp))⟩, fun _ => rfl, False.elim,
   False.elim⟩

theorem kinv_init (cfg : Cfg) : KInv cfg {} :=
  ⟨fun _ => rfl, nofun, fun _ => rfl, nofun, .inl nofun⟩

structure DataEq (s s' : State) : Prop where
  ubuf : s'.ubuf = s.ubuf
  fed : s'.fed = s.fed
  popped : s'.popped = s.popped
  runFrames : s'.runFrames = s.runFrames
  delivered : s'.delivered = s.delivered

structure DInv (s : State) : Prop where
  bytes : s.fed = s.popped.flatMap enc ++ s.ubuf
  cbs : s.delivered = s.runFrames.filterMap cbOf

theorem dinv_of_eq {s s' : State} (h : DInv s) (k : DataEq s s') : DInv s' :=
  ⟨by rw [k.fed, k.popped, k.ubuf]; exact h.bytes, by rw [k.delivered, k.runFrames]; exact h.cbs⟩

theorem dinv_feed {s : State} (b : Bytes) (h : DInv s) : DInv { s with ubuf := s.ubuf ++ b, fed := s.fed ++ b } :=
  ⟨by simp only; rw [h.bytes, List.append_assoc], h.cbs⟩

theorem dinv_pop {s : State} {ml : Nat} {op : UInt8} (hh : header s.ubuf = .ok ml op) (h : DInv s) :
    DInv { s with ubuf := (popFrame s.ubuf ml op).2, popped := s.popped ++ [(popFrame s.ubuf ml op).1] } := by
  refine ⟨?_, h.cbs⟩
  simp only [List.flatMap_append, List.flatMap_cons, List.flatMap_nil, List.append_nil, List.append_assoc]
  rw [enc_popFrame hh]; exact h.bytes

structure Mono (s s' : State) : Prop where
  subs : ∀ ch ∈ s.subs, ch ∈ s'.subs
  stopped : s.stopped = true → s'.stopped = true

theorem Mono.refl (s : State) : Mono s s := ⟨fun _ h => h, fun h => h⟩
theorem Mono.trans {a b c : State} (h1 : Mono a b) (h2 : Mono b c) : Mono a c :=
  ⟨fun ch h => h2.subs ch (h1.subs ch h), fun h => h2.stopped (h1.stopped h)⟩

def cbOut : Out → Option Cb
  | .msg m => some (.msg m)
  | .err t => some (.err t)
  | _ => none

def wroteOn (k : Nat) (outs : List Out) : List Bytes :=
  outs.filterMap fun o => match o with
    | .wrote k' b => if k' = k then some b else none
    | _ => none

theorem wroteOn_append (k : Nat) (a b : List Out) : wroteOn k (a ++ b) = wroteOn k a ++ wroteOn k b := by
  simp [wroteOn, List.filterMap_append]

theorem wroteOn_wrote (k k' : Nat) (f : Bytes) (pre : List Out) :
    wroteOn k (pre ++ [.wrote k' f]) = wroteOn k pre ++ if k' = k then [f] else [] := by
  by_cases h : k' = k <;> simp [wroteOn, h]

def NoWrites (o : List Out) : Prop := ∀ k, wroteOn k o = []
theorem wroteOn_quiet {o : List Out} (h : NoWrites o) (k : Nat) (pre : List Out) : wroteOn k (pre ++ o) = wroteOn k pre := by
  rw [wroteOn_append, h, List.append_nil]

/-- what C11 says about one socket's writes -/
def Good (cfg : Cfg) (w : List Bytes) : Prop := w = [] ∨ ∃ (r : Bytes) (rest : List Bytes), w = authFrame cfg r :: rest

theorem KInv.good {cfg : Cfg} {s : State} (h : KInv cfg s) : Good cfg s.sent := by
  cases hn : s.nonce with
  | none => exact .inl (h.quiet hn)
  | some r => exact .inr ⟨r, h.first r hn⟩

structure GW (acc : State × List Out) : Prop where
  cur : wroteOn acc.1.nsock acc.2 = acc.1.sent
  future : ∀ k, acc.1.nsock < k → wroteOn k acc.2 = []

/-- what the outputs so far show of the sockets: of the current one its log, of later numbers nothing, of each what C11 says -/
def Shown (cfg : Cfg) (acc : State × List Out) : Prop := GW acc ∧ ∀ k, Good cfg (wroteOn k acc.2)

section
variable {cfg : Cfg} {s s' : State} {pre o : List Out}

theorem Shown.same (hw : NoWrites o) (h3 : s'.nsock = s.nsock) (h1 : s'.sent = s.sent) (h : Shown cfg (s, pre)) :
    Shown cfg (s', pre ++ o) :=
  ⟨⟨by rw [wroteOn_quiet hw, h3, h1]; exact h.1.cur, fun k hk => by rw [wroteOn_quiet hw]; exact h.1.future k (h3 ▸ hk)⟩,
   fun k => by rw [wroteOn_quiet hw]; exact h.2 k⟩

theorem Shown.fresh (hw : NoWrites o) (h3 : s.nsock < s'.nsock) (h1 : s'.sent = []) (h : Shown cfg (s, pre)) :
    Shown cfg (s', pre ++ o) :=
  ⟨⟨by rw [wroteOn_quiet hw, h1]; exact h.1.future _ h3,
    fun k hk => by rw [wroteOn_quiet hw]; exact h.1.future k (Nat.lt_trans h3 hk)⟩,
   fun k => by rw [wroteOn_quiet hw]; exact h.2 k⟩

theorem Shown.wrote (f : Bytes) (n : Option Bytes) (p : Pc) (hg : Good cfg (s.sent ++ [f])) (h : Shown cfg (s, pre)) :
    Shown cfg ({ s with sent := s.sent ++ [f], nonce := n, pc := p }, pre ++ [.wrote s.nsock f]) := by
  refine ⟨⟨?_, fun k hk => ?_⟩, fun k => ?_⟩
  · rw [wroteOn_wrote, if_pos rfl]; exact congrArg (· ++ [f]) h.1.cur
  · rw [wroteOn_wrote, if_neg (Nat.ne_of_lt hk), List.append_nil]; exact h.1.future k hk
  · rw [wroteOn_wrote]
    split
    · subst k; rw [h.1.cur]; exact hg
    · rw [List.append_nil]; exact h.2 k

end

def NotImpossible (s : State) : Prop := s.pc ≠ .impossible

/-- `r` = the state and the outputs a piece of the client's code, started in `s`, ends with; `pre` = the outputs before it.
    Reflexive, and transitive along `(t.1, r.2 ++ t.2)`, which is how the model composes its functions. -/
structure Eff (cfg : Cfg) (s : State) (r : State × List Out) : Prop where
  mono : Mono s r.1
  cbs : r.1.delivered = s.delivered ++ r.2.filterMap cbOut
  shown : ∀ pre, Shown cfg (s, pre) → Shown cfg (r.1, pre ++ r.2)
  kok : KOK cfg s → KOK cfg r.1
  dinv : DInv s → DInv r.1
  ni : NotImpossible s → NotImpossible r.1

section
variable {cfg : Cfg}

theorem Eff.refl (s : State) : Eff cfg s (s, []) :=
  ⟨.refl s, (List.append_nil _).symm, fun pre h => (List.append_nil pre).symm ▸ h, id, id, id⟩

theorem Eff.trans {s : State} {r t : State × List Out} (h1 : Eff cfg s r) (h2 : Eff cfg r.1 t) :
    Eff cfg s (t.1, r.2 ++ t.2) :=
  ⟨h1.mono.trans h2.mono, by rw [h2.cbs, h1.cbs, List.filterMap_append, List.append_assoc],
   fun pre h => List.append_assoc pre r.2 t.2 ▸ h2.shown _ (h1.shown pre h), h2.kok ∘ h1.kok, h2.dinv ∘ h1.dinv, h2.ni ∘ h1.ni⟩

/-- a change of state that leaves the socket's log alone.  Of the socket and the pc it asks what `KOK` reads: the socket is
    usable afterwards only if it was (`hu`); the pc is inside connection set-up only if it was (`hc`), and inside a send only
    if it was or the socket is usable (`hs`) -/
theorem eff_upd {s s' : State} {o : List Out} (hw : NoWrites o) (hm : Mono s s')
    (hcb : s'.delivered = s.delivered ++ o.filterMap cbOut) (hd : DInv s → DInv s') (h1 : s'.sent = s.sent)
    (h2 : s'.nonce = s.nonce) (h3 : s'.nsock = s.nsock) (hu : usable s' = true → usable s = true)
    (hc : ConnPc s'.pc → ConnPc s.pc) (hs : SendPc s'.pc → SendPc s.pc ∨ usable s = true)
    (hi : s'.pc = .impossible → s.pc = .impossible) : Eff cfg s (s', o) :=
  ⟨hm, hcb, fun _ => .same hw h3 h1,
    fun h => ⟨by rw [h1, h2]; exact h.quiet, by rw [h1, h2]; exact h.first, fun u => h2 ▸ h.authed (hu u),
      fun p => h2 ▸ h.pre (hc p), fun p => h2 ▸ (hs p).elim h.sendp h.authed⟩,
    hd, fun hn e => hn (hi e)⟩

theorem eff_pc (s : State) (p : Pc) (o : List Out) (hc : ConnPc p → ConnPc s.pc) (hs : SendPc p → SendPc s.pc ∨ usable s = true)
    (hi : p = .impossible → s.pc = .impossible) (ho : o.filterMap cbOut = []) (hw : NoWrites o) :
    Eff cfg s ({ s with pc := p }, o) :=
  eff_upd hw ⟨fun _ h => h, id⟩ (by rw [ho, List.append_nil]) (dinv_of_eq · ⟨rfl, rfl, rfl, rfl, rfl⟩) rfl rfl rfl id hc hs hi

theorem eff_disconnect (s : State) : Eff cfg s ({ s with connected := false }, []) :=
  eff_upd (fun _ => rfl) ⟨fun _ h => h, id⟩ (List.append_nil _).symm (dinv_of_eq · ⟨rfl, rfl, rfl, rfl, rfl⟩) rfl rfl rfl id id
    .inl id

theorem eff_stop (s : State) : Eff cfg s ({ s with stopped := true }, []) :=
  eff_upd (fun _ => rfl) ⟨fun _ h => h, fun _ => rfl⟩ (List.append_nil _).symm (dinv_of_eq · ⟨rfl, rfl, rfl, rfl, rfl⟩) rfl rfl rfl
    id id .inl id

theorem eff_sub (s : State) (ch : Bytes) :
    Eff cfg s ({ s with subs := if ch ∈ s.subs then s.subs else s.subs ++ [ch] }, []) :=
  eff_upd (fun _ => rfl) ⟨fun c h => by simp only; split <;> simp [h], id⟩ (List.append_nil _).symm
    (dinv_of_eq · ⟨rfl, rfl, rfl, rfl, rfl⟩) rfl rfl rfl id id .inl id

theorem eff_closeSock (s : State) : Eff cfg s (closeSock s) := by
  fun_cases closeSock s
  · exact .refl s
  · exact eff_upd (fun _ => rfl) ⟨fun _ h => h, id⟩ (List.append_nil _).symm (dinv_of_eq · ⟨rfl, rfl, rfl, rfl, rfl⟩) rfl rfl rfl
      (fun h => by simp [usable] at h) id .inl id

theorem eff_newSocket (s : State) (i : Nat) (w : Who) : Eff cfg s (newSocket s i w) :=
  ⟨⟨fun _ h => h, id⟩, (List.append_nil _).symm, fun _ => .fresh (fun _ => rfl) (Nat.lt_succ_self _) rfl,
   fun _ => kok_newSocket s i w, fun h => dinv_of_eq h ⟨rfl, rfl, rfl, rfl, rfl⟩, fun _ => nofun⟩

theorem eff_startConnect (s : State) (w : Who) : Eff cfg s (startConnect s w) :=
  (eff_closeSock s).trans (eff_newSocket _ 0 w)

theorem eff_retry (s : State) (w : Who) : Eff cfg s (retry s w) :=
  (eff_pc s s.pc [.sleep] id .inl id rfl fun _ => rfl).trans (eff_startConnect s w)

theorem eff_subLoop (s : State) (k : SubK) (chs : List Bytes) : Eff cfg s ((subLoop s k chs).1, []) := by
  fun_cases subLoop s k chs
  · exact .refl s
  · exact eff_pc s _ [] nofun (fun _ => .inr ‹_›) nofun rfl fun _ => rfl
  · exact eff_disconnect s

/-- `afterInner` is entered stopped or disconnected: its middle branch, the `impossible` one, is dead -/
theorem eff_afterInner (s : State) (h : s.stopped = true ∨ s.connected = false) : Eff cfg s (afterInner s) := by
  fun_cases afterInner s
  · exact eff_pc s .idle [.ret] nofun nofun nofun rfl fun _ => rfl
  · rename_i h1 h2
    rcases h with h | h
    · exact absurd h h1
    · rw [h] at h2; cases h2
  · exact eff_startConnect s .run

theorem eff_lost (s : State) : Eff cfg s (afterInner { s with connected := false }) :=
  (eff_disconnect s).trans (eff_afterInner _ (.inr rfl))

theorem eff_recvLoop (s : State) : Eff cfg s (recvLoop s) := by
  fun_cases recvLoop s
  · exact eff_pc s .runRecv [] nofun nofun nofun rfl fun _ => rfl
  · exact eff_lost s
  · rename_i h; exact eff_afterInner s (.inr (by simpa using h))

theorem eff_runTop (s : State) : Eff cfg s (runTop s) := by
  fun_cases runTop s
  · exact eff_pc s .idle [.ret] nofun nofun nofun rfl fun _ => rfl
  · exact (eff_subLoop s .run _).trans (eff_recvLoop _)
  · exact eff_subLoop s .run _

theorem eff_startPublish (s : State) (k : PubK) (ch p : Bytes) : Eff cfg s (startPublish cfg s k ch p) := by
  fun_cases startPublish cfg s k ch p
  · exact eff_pc s _ [] nofun (fun _ => .inr ‹_›) nofun rfl fun _ => rfl
  · exact (eff_disconnect s).trans (eff_startConnect _ _)

theorem eff_doActs (s : State) (acts : List Act) : Eff cfg s ((doActs cfg s acts).1, (doActs cfg s acts).2.1) := by
  fun_induction doActs cfg s acts with
  | case1 s => exact .refl s
  | case2 s r ih => exact (eff_stop s).trans ih
  | case3 s ch r ih => exact (eff_sub s ch).trans ih
  | case4 s ch p r => exact eff_startPublish s _ ch p

theorem cbOf_publish {f : Frame} {i c p : Bytes} (hop : f.op.toNat = OP_PUBLISH)
    (hrd : read f = some (.ok (.publish i c p))) : cbOf f = some (.msg (i, c, p)) := by
  simp only [cbOf, if_pos hop, hrd]
theorem cbOf_unread_publish {f : Frame} (hop : f.op.toNat = OP_PUBLISH)
    (hrd : ∀ i c p, read f = some (.ok (.publish i c p)) → False) : cbOf f = none := by
  simp only [cbOf, if_pos hop]
theorem cbOf_error {f : Frame} {t : Bytes} (hop : ¬ f.op.toNat = OP_PUBLISH) (hop2 : f.op.toNat = OP_ERROR)
    (hrd : read f = some (.ok (.error t))) : cbOf f = some (.err t) := by
  simp only [cbOf, if_neg hop, if_pos hop2, hrd]
theorem cbOf_unread_error {f : Frame} (hop : ¬ f.op.toNat = OP_PUBLISH) (hop2 : f.op.toNat = OP_ERROR)
    (hrd : ∀ t, read f = some (.ok (.error t)) → False) : cbOf f = none := by
  simp only [cbOf, if_neg hop, if_pos hop2]
theorem cbOf_other {f : Frame} (hop : ¬ f.op.toNat = OP_PUBLISH) (hop2 : ¬ f.op.toNat = OP_ERROR) : cbOf f = none := by
  simp only [cbOf, if_neg hop, if_neg hop2]

def Cb.out : Cb → Out
  | .msg m => .msg m
  | .err t => .err t

theorem eff_feed (s : State) (b : Bytes) : Eff cfg s ({ s with ubuf := s.ubuf ++ b, fed := s.fed ++ b }, []) :=
  eff_upd (fun _ => rfl) ⟨fun _ h => h, id⟩ (List.append_nil _).symm (dinv_feed b) rfl rfl rfl id id .inl id

theorem eff_reset (s : State) : Eff cfg s ({ s with ubuf := [], fed := [], popped := [] }, []) :=
  eff_upd (fun _ => rfl) ⟨fun _ h => h, id⟩ (List.append_nil _).symm (fun h => ⟨rfl, h.cbs⟩) rfl rfl rfl id id .inl id

theorem eff_pop (s : State) {ml : Nat} {op : UInt8} (hh : header s.ubuf = .ok ml op) : Eff cfg s (popRun s ml op, []) :=
  eff_upd (fun _ => rfl) ⟨fun _ h => h, id⟩ (List.append_nil _).symm (dinv_pop hh) rfl rfl rfl id id .inl id

theorem eff_note (s : State) (f : Frame) (c : Option Cb) (hc : cbOf f = c) :
    Eff cfg s (noteRun s f c, c.toList.map Cb.out) := by
  have ho : (c.toList.map Cb.out).filterMap cbOut = c.toList ∧ NoWrites (c.toList.map Cb.out) := by
    cases c with
    | none => exact ⟨rfl, fun _ => rfl⟩
    | some x => cases x <;> exact ⟨rfl, fun _ => rfl⟩
  refine eff_upd ho.2 ⟨fun _ h => h, id⟩ (by rw [ho.1]; rfl) (fun h => ⟨h.bytes, ?_⟩) rfl rfl rfl id id .inl id
  show s.delivered ++ c.toList = (s.runFrames ++ [f]).filterMap cbOf
  rw [List.filterMap_append, ← h.cbs, List.filterMap_cons, hc]
  cases c <;> rfl

theorem eff_take (s : State) {ml : Nat} {op : UInt8} (hh : header s.ubuf = .ok ml op) (c : Option Cb)
    (hc : cbOf (popFrame s.ubuf ml op).1 = c) :
    Eff cfg s (noteRun (popRun s ml op) (popFrame s.ubuf ml op).1 c, c.toList.map Cb.out) :=
  (eff_pop s hh).trans (eff_note _ _ c hc)

theorem eff_frameLoop (s : State) : Eff cfg s ((frameLoop cfg s).1, (frameLoop cfg s).2.1) := by
  fun_induction frameLoop cfg s with
  | case1 s _ => exact .refl s
  | case2 s _ _ => exact .refl s
  | case3 s ml op hh f s1 hop i c p hrd r _ t ih =>
    exact ((eff_take s hh _ (cbOf_publish hop hrd)).trans (eff_doActs _ _)).trans ih
  | case4 s ml op hh f s1 hop i c p hrd r _ => exact (eff_take s hh _ (cbOf_publish hop hrd)).trans (eff_doActs _ _)
  | case5 s ml op hh f s1 hop hrd => exact eff_take s hh none (cbOf_unread_publish hop hrd)
  | case6 s ml op hh f s1 hop hop2 t hrd r ih => exact (eff_take s hh _ (cbOf_error hop hop2 hrd)).trans ih
  | case7 s ml op hh f s1 hop hop2 hrd => exact eff_take s hh none (cbOf_unread_error hop hop2 hrd)
  | case8 s ml op hh f s1 hop hop2 ih => exact (eff_take s hh none (cbOf_other hop hop2)).trans ih

/-- `afterFrames` hands on the outputs of the frame loop it is given: so does this lemma -/
theorem eff_afterFrames {s : State} (r : State × List Out × FL) (h : Eff cfg s (r.1, r.2.1)) :
    Eff cfg s (afterFrames cfg r) := by
  fun_cases afterFrames cfg r
  · exact h
  · exact h.trans (eff_pc r.1 .crashed [.exc] nofun nofun nofun rfl fun _ => rfl)
  · exact h.trans (eff_lost r.1)
  · exact h.trans (eff_afterInner r.1 (.inl ‹_›))
  · exact h.trans (eff_recvLoop r.1)

theorem eff_frames (s : State) : Eff cfg s (afterFrames cfg (frameLoop cfg s)) :=
  eff_afterFrames _ (eff_frameLoop s)

theorem eff_afterPub (s : State) (k : PubK) : Eff cfg s (afterPub cfg s k) := by
  fun_cases afterPub cfg s k
  · exact eff_pc s .idle [] nofun nofun nofun rfl fun _ => rfl
  · exact (eff_doActs s _).trans (eff_frames _)
  · exact eff_doActs s _

theorem eff_afterSub (s : State) (k : SubK) : Eff cfg s (afterSub cfg s k) := by
  cases k with
  | run => exact eff_recvLoop s
  | pub k => exact eff_afterPub s k

theorem eff_resume (s : State) (w : Who) : Eff cfg s (resume cfg s w) := by
  fun_cases resume cfg s w
  · exact eff_pc s .idle [] nofun nofun nofun rfl fun _ => rfl
  · exact eff_runTop s
  · exact (eff_subLoop s _ _).trans (eff_afterPub _ _)
  · exact eff_subLoop s _ _

/-- `Eff` for a whole step.  A step may begin or end inside do_auth, where the socket is usable before AUTH has gone out:
    `KOK` (which `Eff` carries) fails there and only `KInv` holds. -/
structure StepEff (cfg : Cfg) (s : State) (r : State × List Out) : Prop where
  mono : Mono s r.1
  cbs : r.1.delivered = s.delivered ++ r.2.filterMap cbOut
  shown : KInv cfg s → ∀ pre, Shown cfg (s, pre) → Shown cfg (r.1, pre ++ r.2)
  kinv : KInv cfg s → KInv cfg r.1
  dinv : DInv s → DInv r.1
  ni : NotImpossible s → NotImpossible r.1

theorem Eff.step_of {s : State} {r : State × List Out} (h : Eff cfg s r) (hk : KInv cfg s → KInv cfg r.1) :
    StepEff cfg s r :=
  ⟨h.mono, h.cbs, fun _ => h.shown, hk, h.dinv, h.ni⟩

/-- at a pc outside do_auth `KInv` is `KOK` -/
theorem Eff.step {s : State} {r : State × List Out} {p : Pc} (h : Eff cfg s r) (hp : s.pc = p) (hq : ¬ AuthPc p) :
    StepEff cfg s r :=
  h.step_of fun hi => (h.kok (hi.ok (hp ▸ hq))).inv

/-- a new connection attempt makes `KOK` true whatever was before -/
theorem Eff.step_fresh {s : State} {r : State × List Out} (h : Eff cfg s r) (hk : KOK cfg r.1) : StepEff cfg s r :=
  h.step_of fun _ => hk.inv

/-- a step that begins with the write `f` of a completed sendall, logged in the state the rest starts from -/
theorem Eff.step_wrote {s : State} {t : State × List Out} (f : Bytes) (n : Option Bytes) (p : Pc)
    (h : Eff cfg { s with sent := s.sent ++ [f], nonce := n, pc := p } t) (hp : p = .impossible → s.pc = .impossible)
    (hk : KInv cfg s → KOK cfg { s with sent := s.sent ++ [f], nonce := n, pc := p }) :
    StepEff cfg s (t.1, .wrote s.nsock f :: t.2) :=
  ⟨⟨h.mono.subs, h.mono.stopped⟩, h.cbs,
    fun hi pre hs => List.append_cons pre _ t.2 ▸ h.shown _ (hs.wrote f n p (hk hi).inv.good),
    fun hi => (h.kok (hk hi)).inv, fun hd => h.dinv ⟨hd.bytes, hd.cbs⟩, fun hn => h.ni fun e => hn (hp e)⟩

theorem stepEff_retry (s : State) (who : Who) : StepEff cfg s (retry s who) :=
  (eff_retry s who).step_fresh (kok_newSocket _ _ _)

theorem stepEff_doAuth (s : State) (who : Who) (b : Bytes) (hp : ConnPc s.pc) :
    StepEff cfg s (doAuth cfg s who b) := by
  fun_cases doAuth cfg s who b with
  | case1 => exact ((eff_feed s b).trans (eff_retry _ who)).step_fresh (kok_newSocket _ _ _)
  | case2 => exact ((eff_feed s b).trans (eff_retry _ who)).step_fresh (kok_newSocket _ _ _)
  | case3 s1 ml op hh =>
    exact ((eff_feed s b).trans ((eff_pop _ hh).trans (eff_pc _ (.authSend who _) [] (fun _ => hp) nofun nofun rfl fun _ => rfl))).step_of
      fun h => ⟨h.quiet, h.first, fun _ => h.pre hp, False.elim, .inr (.inr (.inl ⟨_, _, rfl⟩))⟩
  | case4 s1 ml op hh =>
    exact ((eff_feed s b).trans ((eff_pop _ hh).trans (eff_pc _ .crashed [.exc] nofun nofun nofun rfl fun _ => rfl))).step_of
      fun h => ⟨h.quiet, h.first, False.elim, False.elim, .inr (.inr (.inr rfl))⟩
  | case5 s1 ml op hh =>
    exact ((eff_feed s b).trans ((eff_pop _ hh).trans (eff_retry _ who))).step_fresh (kok_newSocket _ _ _)

theorem step_eff (cfg : Cfg) (s : State) (e : Ev) : StepEff cfg s (step cfg s e) := by
  -- `stop` first; then the (pc, event) pairs in the order of the model's text: fresh/new; idle/sub, pub, run, close;
  -- connecting/connOk, connRefused; authRecv/data, eof, timeout, sockErr; authSend/sendOk, timeout, sockErr;
  -- subSend/sendOk, timeout, sockErr; runRecv/data, eof, sockErr, timeout; pubSend/sendOk, timeout, sockErr; any other pair
  unfold step
  split
  · exact (eff_stop s).step_of fun h => ⟨h.quiet, h.first, h.pre, h.sendp, h.authed⟩
  split
  next => exact (eff_startConnect s .init).step_fresh (kok_newSocket _ _ _)
  next ch hp _ => exact (eff_sub s ch).step hp id
  next ch p hp _ => exact (eff_startPublish s .idle ch p).step hp id
  next hp _ => exact (eff_runTop s).step hp id
  next hp _ => exact (eff_closeSock s).step hp id
  next i who hp _ =>
    -- connOk enters do_auth (usable, no nonce yet): `KOK` fails afterwards, so there is no `Eff` to start from
    exact ⟨⟨fun _ h => h, id⟩, (List.append_nil _).symm, fun _ _ => .same (fun _ => rfl) rfl rfl,
      fun h => ⟨h.quiet, h.first, fun _ => h.pre (hp ▸ trivial), False.elim, .inr (.inl ⟨_, rfl⟩)⟩,
      fun h => ⟨rfl, h.cbs⟩, fun _ => nofun⟩
  next i who hp _ =>
    split
    · exact (eff_newSocket s _ who).step_fresh (kok_newSocket _ _ _)
    split
    · exact ((eff_reset s).trans (eff_retry _ who)).step_fresh (kok_newSocket _ _ _)
    · exact stepEff_retry s who
  next who b hp _ =>
    split
    · exact stepEff_retry s who
    · exact stepEff_doAuth s who b (hp ▸ trivial)
  next who hp _ => exact stepEff_retry s who
  next who hp _ => exact stepEff_retry s who
  next who hp _ => exact stepEff_retry s who
  next who rand hp _ =>
    exact (eff_resume _ who).step_wrote (authFrame cfg rand) (some rand) .idle nofun
      fun h => kok_authed rand h (hp ▸ trivial)
  next who rand hp _ => exact stepEff_retry s who
  next who rand hp _ => exact stepEff_retry s who
  next ch rest k hp _ =>
    have hk (h : KInv cfg s) := kok_append (subFrame cfg ch) (h.ok (hp ▸ id)) (h.sendp (hp ▸ trivial))
    simp only
    split
    · exact ((eff_subLoop _ k rest).trans (eff_afterSub _ k)).step_wrote _ s.nonce s.pc id hk
    · exact (eff_subLoop _ k rest).step_wrote _ s.nonce s.pc id hk
  next ch rest k hp _ => exact ((eff_disconnect s).trans (eff_afterSub _ k)).step hp id
  next ch rest k hp _ => exact ((eff_disconnect s).trans (eff_afterSub _ k)).step hp id
  next b hp _ =>
    split
    · exact (eff_lost s).step hp id
    · exact ((eff_feed s b).trans (eff_frames _)).step hp id
  next hp _ => exact (eff_lost s).step hp id
  next hp _ => exact (eff_lost s).step hp id
  next hp _ => exact (eff_frames s).step hp id
  next k frame hp _ =>
    exact (eff_afterPub _ k).step_wrote frame s.nonce s.pc id
      fun h => kok_append frame (h.ok (hp ▸ id)) (h.sendp (hp ▸ trivial))
  next k frame hp _ => exact ((eff_disconnect s).trans (eff_startConnect _ _)).step_fresh (kok_newSocket _ _ _)
  next k frame hp _ => exact ((eff_disconnect s).trans (eff_startConnect _ _)).step_fresh (kok_newSocket _ _ _)
  next => exact (Eff.refl s).step_of id

end

structure RunInv (cfg : Cfg) (acc : State × List Out) : Prop where
  kinv : KInv cfg acc.1
  dinv : DInv acc.1
  ni : NotImpossible acc.1
  cbs : acc.2.filterMap cbOut = acc.1.delivered
  shown : Shown cfg acc

theorem run_inv (cfg : Cfg) (es : List Ev) : RunInv cfg (run cfg es) :=
  run_induction (step cfg)
    (fun acc e h =>
      have st := step_eff cfg acc.1 e
      ⟨st.kinv h.kinv, st.dinv h.dinv, st.ni h.ni, by rw [List.filterMap_append, h.cbs, st.cbs], st.shown h.kinv _ h.shown⟩)
    es _ ⟨kinv_init cfg, ⟨rfl, rfl⟩, nofun, rfl, ⟨rfl, fun _ _ => rfl⟩, fun _ => .inl rfl⟩

theorem mo_step (cfg : Cfg) (s : State) (e : Ev) : Mono s (step cfg s e).1 := (step_eff cfg s e).mono

theorem ni_run (cfg : Cfg) (es : List Ev) : (run cfg es).1.pc ≠ .impossible := (run_inv cfg es).ni

/-- blocked inside message_callback's publish() (its sendall, or the reconnect it started) -/
def CbBlocked : Pc → Prop
  | .pubSend (.cb _) _ => True
  | .connecting _ (.pub (.cb _)) => True
  | _ => False

/-- the control fields a frame loop leaves alone; claimed only of loops in which no callback blocked (`doActs_spec`,
    `frameLoop_spec`), since a publish() from a callback may reconnect -/
structure Calm (s s' : State) (outs : List Out) : Prop where
  pc : s'.pc = s.pc
  attempts : s'.attempts = s.attempts
  nsock : s'.nsock = s.nsock
  connected : s'.connected = s.connected
  quiet : ∀ k, Out.attempt k ∉ outs

theorem Calm.refl (s : State) : Calm s s [] := ⟨rfl, rfl, rfl, rfl, fun _ => List.not_mem_nil⟩
theorem Calm.trans {a b c : State} {o1 o2 : List Out} (h1 : Calm a b o1) (h2 : Calm b c o2) : Calm a c (o1 ++ o2) :=
  ⟨h2.pc.trans h1.pc, h2.attempts.trans h1.attempts, h2.nsock.trans h1.nsock, h2.connected.trans h1.connected,
   fun k h => (List.mem_append.mp h).elim (h1.quiet k) (h2.quiet k)⟩

theorem Calm.of_eq {s s0 s' : State} {o : List Out} (h : Calm s0 s' o) (hp : s0.pc = s.pc)
    (ha : s0.attempts = s.attempts) (hn : s0.nsock = s.nsock) (hc : s0.connected = s.connected) : Calm s s' o :=
  ⟨h.pc.trans hp, h.attempts.trans ha, h.nsock.trans hn, h.connected.trans hc, h.quiet⟩

theorem calm_take (s : State) (ml : Nat) (op : UInt8) (f : Frame) (c : Option Cb) :
    Calm s (noteRun (popRun s ml op) f c) (c.toList.map Cb.out) :=
  ⟨rfl, rfl, rfl, rfl, fun k h => by
    cases c with
    | none => cases h
    | some x => cases x <;> simp [Cb.out] at h⟩

theorem doActs_spec (cfg : Cfg) (s : State) (acts : List Act) :
    ((doActs cfg s acts).2.2 = false → CbBlocked (doActs cfg s acts).1.pc) ∧
    ((doActs cfg s acts).2.2 = true → Calm s (doActs cfg s acts).1 (doActs cfg s acts).2.1) := by
  fun_induction doActs cfg s acts with
  | case1 s => exact ⟨nofun, fun _ => .refl s⟩
  | case2 s r ih => exact ⟨ih.1, fun h => (ih.2 h).of_eq rfl rfl rfl rfl⟩
  | case3 s ch r ih => exact ⟨ih.1, fun h => (ih.2 h).of_eq rfl rfl rfl rfl⟩
  | case4 s ch p r =>
    refine ⟨fun _ => ?_, nofun⟩
    show CbBlocked (startPublish cfg s (.cb r) ch p).1.pc
    fun_cases startPublish cfg s (.cb r) ch p <;> trivial

theorem frameLoop_spec (cfg : Cfg) (s : State) :
    ((frameLoop cfg s).2.2 = .blocked → CbBlocked (frameLoop cfg s).1.pc) ∧
    ((frameLoop cfg s).2.2 ≠ .blocked → Calm s (frameLoop cfg s).1 (frameLoop cfg s).2.1) ∧
    ((frameLoop cfg s).2.2 = .done → header (frameLoop cfg s).1.ubuf = .wait) := by
  fun_induction frameLoop cfg s with
  | case1 s hh => exact ⟨nofun, fun _ => .refl s, fun _ => hh⟩
  | case2 s _ _ => exact ⟨nofun, fun _ => .refl s, nofun⟩
  | case3 s ml op _ f s1 _ i c p _ r hr t ih =>
    exact ⟨ih.1, fun hb => ((calm_take s ml op f _).trans ((doActs_spec cfg _ _).2 hr)).trans (ih.2.1 hb), ih.2.2⟩
  | case4 s ml op _ f s1 _ i c p _ r hr =>
    exact ⟨fun _ => (doActs_spec cfg _ _).1 (by simpa using hr), fun h => absurd rfl h, nofun⟩
  | case5 s ml op _ f s1 => exact ⟨nofun, fun _ => calm_take s ml op f none, nofun⟩
  | case6 s ml op _ f s1 _ _ t _ r ih => exact ⟨ih.1, fun hb => (calm_take s ml op f _).trans (ih.2.1 hb), ih.2.2⟩
  | case7 s ml op _ f s1 => exact ⟨nofun, fun _ => calm_take s ml op f none, nofun⟩
  | case8 s ml op _ f s1 _ _ ih => exact ⟨ih.1, fun hb => (calm_take s ml op f none).trans (ih.2.1 hb), ih.2.2⟩

theorem afterInner_stopped {s : State} (h : s.stopped = true) : afterInner s = ({ s with pc := .idle }, [.ret]) := by
  simp [afterInner, h]

theorem afterFrames_stopped (cfg : Cfg) (s : State) (hs : s.stopped = true) :
    let r := afterFrames cfg (frameLoop cfg s)
    (r.1.pc = .idle ∧ r.2.getLast? = some .ret ∧ r.1.attempts = s.attempts ∧ ∀ k, Out.attempt k ∉ r.2) ∨
    r.1.pc = .crashed ∨ CbBlocked r.1.pc := by
  have hsp := frameLoop_spec cfg s
  have hst : (frameLoop cfg s).1.stopped = true := (eff_frameLoop (cfg := cfg) s).mono.stopped hs
  -- once the frames are handled `afterInner` is entered with `stopped` set and returns
  have ret (r : State × List Out × FL) (c : Bool) (hc : Calm s r.1 r.2.1) (hr : r.1.stopped = true) :
      let t := afterInner { r.1 with connected := c }
      t.1.pc = .idle ∧ (r.2.1 ++ t.2).getLast? = some .ret ∧ t.1.attempts = s.attempts ∧
        ∀ k, Out.attempt k ∉ r.2.1 ++ t.2 := by
    rw [afterInner_stopped (s := { r.1 with connected := c }) hr]
    exact ⟨rfl, by simp, hc.attempts, fun k h => (List.mem_append.mp h).elim (hc.quiet k) (by simp)⟩
  generalize frameLoop cfg s = r at hsp hst ⊢
  fun_cases afterFrames cfg r
  · exact .inr (.inr (hsp.1 ‹_›))
  · exact .inr (.inl rfl)
  · exact .inl (ret r false (hsp.2.1 (by simp [*])) hst)
  · exact .inl (ret r r.1.connected (hsp.2.1 (by simp [*])) hst)
  · exact absurd hst ‹_›

end Hpfeeds.BlkClient
