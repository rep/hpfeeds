/-
  Nothing is withheld (C12, blocking `Client.run`): whenever run() goes back to recv() after the frames of a read
  were handled — directly, or after a callback's publish() returned, also when that publish had to reconnect and
  resubscribe — the unpacker holds NO complete frame.  Arriving at recv() from the TOP of run()'s outer loop is
  different: frames that came in the same recv() as OP_INFO are parked there until the next read completes.
-/
import Hpfeeds.Lemmas.BlkClient
namespace Hpfeeds.BlkClient
open Hpfeeds Extracted

theorem CbBlocked.ne_recv {p : Pc} (h : CbBlocked p) : p ≠ .runRecv := fun e => by rw [e] at h; exact h

theorem afterInner_pc (s : State) : (afterInner s).1.pc ≠ .runRecv := by
  fun_cases afterInner s <;> exact nofun

theorem recvLoop_recv (s : State) (h : (recvLoop s).1.pc = .runRecv) : (recvLoop s).1.ubuf = s.ubuf := by
  revert h
  fun_cases recvLoop s
  · exact fun _ => rfl
  · exact fun h => absurd h (afterInner_pc _)
  · exact fun h => absurd h (afterInner_pc _)

theorem afterFrames_recv_drained (cfg : Cfg) (s : State)
    (h : (afterFrames cfg (frameLoop cfg s)).1.pc = .runRecv) :
    header (afterFrames cfg (frameLoop cfg s)).1.ubuf = .wait := by
  have he := frameLoop_spec cfg s
  revert h
  generalize frameLoop cfg s = r at he ⊢
  fun_cases afterFrames cfg r
  · exact fun h => absurd h (he.1 ‹_›).ne_recv
  · exact nofun
  · exact fun h => absurd h (afterInner_pc _)
  · exact fun h => absurd h (afterInner_pc _)
  · exact fun h => by rw [recvLoop_recv _ h]; exact he.2.2 ‹_›

theorem afterPub_recv_drained (cfg : Cfg) (s : State) (k : PubK) (h : (afterPub cfg s k).1.pc = .runRecv) :
    header (afterPub cfg s k).1.ubuf = .wait := by
  revert h
  fun_cases afterPub cfg s k
  · exact nofun
  · exact afterFrames_recv_drained cfg _
  · rename_i hr; exact fun h => absurd h ((doActs_spec cfg s _).1 (by simpa using hr)).ne_recv

theorem doAuth_pc (cfg : Cfg) (s : State) (who : Who) (b : Bytes) : (doAuth cfg s who b).1.pc ≠ .runRecv := by
  fun_cases doAuth cfg s who b <;> exact nofun

theorem subLoop_blocked_pc (s : State) (k : SubK) (chs : List Bytes) (h : ¬ (subLoop s k chs).2 = true) :
    (subLoop s k chs).1.pc ≠ .runRecv := by
  revert h
  fun_cases subLoop s k chs
  · exact fun h => absurd rfl h
  · exact fun _ => nofun
  · exact fun h => absurd rfl h

/-- run() arrives at recv() from the TOP of its outer loop: it has just been called, or has just (re)connected and
    sent its subscriptions -/
def LoopTop (s : State) : Prop :=
  s.pc = .idle ∨ (∃ rand, s.pc = .authSend .run rand) ∨ (∃ ch rest, s.pc = .subSend ch rest .run)

theorem afterSub_recv (cfg : Cfg) {s0 : State} {ch : Bytes} {rest : List Bytes} (s : State) (k : SubK)
    (hp : s0.pc = .subSend ch rest k) (h : (afterSub cfg s k).1.pc = .runRecv) :
    header (afterSub cfg s k).1.ubuf = .wait ∨ LoopTop s0 := by
  cases k with
  | run => exact .inr (.inr (.inr ⟨ch, rest, hp⟩))
  | pub k' => exact .inl (afterPub_recv_drained cfg s k' h)

theorem recv_entry (cfg : Cfg) (s : State) (e : Ev) :
    (step cfg s e).1.pc = .runRecv →
      header (step cfg s e).1.ubuf = .wait ∨ LoopTop s ∨ (s.pc = .runRecv ∧ (step cfg s e).1.ubuf = s.ubuf) := by
  -- the (pc, event) pairs in the order of the model's text, as in `step_eff`; whatever ends in a connection attempt
  -- (`startConnect`, `newSocket`, `retry`) is not at recv(): `nofun`
  unfold step
  split
  · exact fun h => .inr (.inr ⟨h, rfl⟩)
  split
  next => exact nofun
  next hp _ => exact fun _ => .inr (.inl (.inl hp))
  next hp _ => exact fun _ => .inr (.inl (.inl hp))
  next hp _ => exact fun _ => .inr (.inl (.inl hp))
  next hp _ => exact fun _ => .inr (.inl (.inl hp))
  next => exact nofun
  next =>
    split
    · exact nofun
    split <;> exact nofun
  next =>
    split
    · exact nofun
    · exact fun h => absurd h (doAuth_pc cfg s _ _)
  next => exact nofun
  next => exact nofun
  next => exact nofun
  next who rand hp _ =>
    simp only
    fun_cases resume cfg _ who
    · exact nofun
    · exact fun _ => .inr (.inl (.inr (.inl ⟨rand, hp⟩)))
    · exact fun h => .inl (afterPub_recv_drained cfg _ _ h)
    · exact fun h => absurd h (subLoop_blocked_pc _ _ _ ‹_›)
  next => exact nofun
  next => exact nofun
  next ch rest k hp _ =>
    simp only
    split
    · exact fun h => (afterSub_recv cfg _ k hp h).imp_right .inl
    · exact fun h => absurd h (subLoop_blocked_pc _ _ _ ‹_›)
  next ch rest k hp _ => exact fun h => (afterSub_recv cfg _ k hp h).imp_right .inl
  next ch rest k hp _ => exact fun h => (afterSub_recv cfg _ k hp h).imp_right .inl
  next =>
    split
    · exact fun h => absurd h (afterInner_pc _)
    · exact fun h => .inl (afterFrames_recv_drained cfg _ h)
  next => exact fun h => absurd h (afterInner_pc _)
  next => exact fun h => absurd h (afterInner_pc _)
  next => exact fun h => .inl (afterFrames_recv_drained cfg _ h)
  next => exact fun h => .inl (afterPub_recv_drained cfg _ _ h)
  next => exact nofun
  next => exact nofun
  next => exact fun h => .inr (.inr ⟨h, rfl⟩)

end Hpfeeds.BlkClient
