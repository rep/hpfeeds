/-
  The decoder of the blocking thread session (C12): the bytes `recv()` returned are the frames dispatched, re-encoded,
  followed by the unpacker's buffer; while the reactor is alive and the protocol has not closed the socket, that
  buffer begins NO complete frame — hence (`DInv.drained`) the frames dispatched on the current connection are
  exactly the complete frames contained in the bytes received, however they were sliced.
  This is a fact about `dataReceived` as a whole: it fails between two of its actions.
-/
import Hpfeeds.Lemmas.BlkAtoms
import Hpfeeds.Lemmas.Run
import Hpfeeds.Lemmas.Wire
namespace Hpfeeds.BlkSession
open Hpfeeds Extracted

structure DInv (s : State) : Prop where
  bytes : s.inbound = s.processed.flatMap enc ++ s.ubuf
  wf : ∀ f ∈ s.processed, f.WF
  wait : s.dead = false → s.sockClosed = false → header s.ubuf = .wait

theorem closeSock_fst (s : State) : (closeSock s).1 = { s with sockClosed := true } := by
  unfold closeSock; split
  · cases s; simp_all
  · rfl

theorem rwriteAll_log (s : State) (fs : List Bytes) :
    (rwriteAll s fs).inbound = s.inbound ∧ (rwriteAll s fs).processed = s.processed := by
  induction fs generalizing s with
  | nil => exact ⟨rfl, rfl⟩
  | cons f fs ih => exact ih (rwrite s f)

theorem onFrame_log (cfg : Cfg) (s : State) (f : Frame) :
    (onFrame cfg s f).1.inbound = s.inbound ∧ (onFrame cfg s f).1.processed = s.processed := by
  have closes : (closeSock s).1.inbound = s.inbound ∧ (closeSock s).1.processed = s.processed := by
    rw [closeSock_fst]; exact ⟨rfl, rfl⟩
  unfold onFrame
  cases read f with
  | none => exact closes
  | some r =>
    cases r with
    | error _ => exact ⟨rfl, rfl⟩
    | ok m =>
      cases m with
      | info n rand => exact rwriteAll_log _ _
      | error | publish => exact ⟨rfl, rfl⟩
      | auth | subscribe | unsubscribe => exact closes

theorem dispatch_log (cfg : Cfg) (s : State) (fs : List Frame) :
    (dispatch cfg s fs).1.inbound = s.inbound ∧
    (dispatch cfg s fs).1.processed ++ (dispatch cfg s fs).2.2.getD [] = s.processed ++ fs := by
  induction fs generalizing s with
  | nil => exact ⟨rfl, rfl⟩
  | cons f fs ih =>
    obtain ⟨h1, h2⟩ : _ ∧ _ = s.processed ++ [f] := onFrame_log cfg (noteFrame s f) f
    simp only [dispatch]; split
    · exact ⟨h1, by simp [h2]⟩
    · obtain ⟨i1, i2⟩ := ih (onFrame cfg (noteFrame s f) f).1
      exact ⟨i1.trans h1, by rw [i2, h2]; simp⟩

theorem dataReceived_d (cfg : Cfg) (s : State) (c : Bytes) (h : DInv s) : DInv (dataReceived cfg s c).1 := by
  obtain ⟨hb, hwf, hwait⟩ := drain_spec (s.ubuf ++ c)
  have hl := dispatch_log cfg { s with inbound := s.inbound ++ c } (drain (s.ubuf ++ c)).1
  unfold dataReceived; simp only
  generalize dispatch cfg { s with inbound := s.inbound ++ c } (drain (s.ubuf ++ c)).1 = r at hl ⊢
  obtain ⟨hin, hpr⟩ := hl
  have key : r.1.inbound = (r.1.processed ++ r.2.2.getD []).flatMap enc ++ (drain (s.ubuf ++ c)).2.1 := by
    rw [hin, hpr]; simp only
    rw [h.bytes, List.flatMap_append, List.append_assoc, List.append_assoc, ← hb]
  have wf : ∀ f ∈ r.1.processed, f.WF := fun f hf =>
    (List.mem_append.mp (hpr ▸ List.mem_append_left _ hf)).elim (h.wf f) (hwf f)
  split
  · next rest e => exact ⟨by simpa [e, List.flatMap_append] using key, wf, nofun⟩
  · next e =>
    split
    · next e' => exact ⟨by simpa [e] using key, wf, fun _ _ => by simpa [e'] using hwait⟩
    · rw [closeSock_fst]; exact ⟨by simpa [e] using key, wf, fun _ => nofun⟩

theorem dinv_atom {cfg : Cfg} {s : State} {r : State × List Out} (a : Atom cfg s r) (h : DInv s) : DInv r.1 := by
  cases a with
  | data c => exact dataReceived_d cfg s c h
  | connect => exact ⟨rfl, nofun, fun _ _ => header_nil⟩
  | crash => exact ⟨h.bytes, h.wf, nofun⟩
  | net | block | lost | take | send | wBegin | put | stale | unready | wake | wakeStale | read =>
    exact ⟨h.bytes, h.wf, h.wait⟩

theorem dinv_run (cfg : Cfg) (es : List Ev) : DInv (run cfg es).1 :=
  run_invariant (step cfg) (fun s e => (step_atoms cfg s e).preserves DInv dinv_atom) es _
    ⟨rfl, nofun, fun _ _ => header_nil⟩

theorem DInv.drained {s : State} (h : DInv s) (hd : s.dead = false) (hc : s.sockClosed = false) :
    drain s.inbound = (s.processed, s.ubuf, none) := by
  rw [h.bytes, drain_frames_wait h.wf (h.wait hd hc)]

end Hpfeeds.BlkSession
