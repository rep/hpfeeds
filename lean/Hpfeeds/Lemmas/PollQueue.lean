/-
  The select()-able queue: invariant over every interleaving of the half-steps of put and get.
-/
import Hpfeeds.Model.PollQueue
namespace Hpfeeds.PollQueue

structure Inv {α : Type} (s : State α) : Prop where
  count : s.items.length = s.wake + s.midPut + s.midGet
  fifo : s.deqLog ++ s.items = s.enqLog
  noErr : s.emptyErr = 0

theorem inv_init {α : Type} : Inv ({} : State α) := ⟨rfl, rfl, rfl⟩

theorem inv_step {α : Type} (s : State α) (e : Ev α) (h : Inv s) : Inv ((step s e).getD s) := by
  obtain ⟨hc, hf, hn⟩ := h
  -- the goals follow `step`: enq; wake disabled, enabled; recv disabled, enabled; deq disabled, on an empty
  -- queue, on `x :: r`
  fun_cases step s e
  case case1 x =>
    refine ⟨?_, by simp [← hf], hn⟩
    simp only [Option.getD_some, List.length_append, List.length_singleton, hc]
    omega
  case case2 | case4 | case6 => exact ⟨hc, hf, hn⟩
  case case3 | case5 =>
    refine ⟨?_, hf, hn⟩
    simp only [Option.getD_some, hc]
    omega
  case case7 hi =>
    -- a consumer holds a wake-up byte that was counted: the queue cannot be empty
    rw [hi, List.length_nil] at hc
    omega
  case case8 x r hi =>
    rw [hi] at hc hf
    rw [List.length_cons] at hc
    refine ⟨?_, by simp [← hf], hn⟩
    simp only [Option.getD_some]
    omega

theorem inv_run {α : Type} (s : State α) (es : List (Ev α)) (h : Inv s) : Inv (run s es) :=
  List.foldlRecOn es _ h fun s hs e _ => inv_step s e hs

theorem Inv.nonempty_of_readable {α : Type} {s : State α} (h : Inv s) (hr : readable s = true) : s.items ≠ [] := by
  have hw : 0 < s.wake := by simpa [readable] using hr
  have hc := h.count
  exact List.length_pos_iff.mp (by omega)

theorem Inv.readable_iff {α : Type} {s : State α} (h : Inv s) (hp : s.midPut = 0) (hg : s.midGet = 0) :
    readable s = true ↔ s.items ≠ [] := by
  rw [← List.length_pos_iff, h.count, hp, hg]
  simp [readable]

end Hpfeeds.PollQueue
