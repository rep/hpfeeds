/-
  Blocking reactor + thread session: every event is a sequence of atomic actions.  `Proto` lists what
  `data_received` does (the protocol callbacks), `Atom` what an event does, with `dataReceived` as one action.
  The control flow of the model is walked here, once; an invariant is then checked action by action.
  (The goals of `fun_cases`, `case1`, `case2`, .., come in the order in which the branches stand in the model.)
-/
import Hpfeeds.Model.BlkSession
import Hpfeeds.Lemmas.Star
namespace Hpfeeds.BlkSession
open Hpfeeds Extracted

def pubOf (f : Frame) : Option Message :=
  match read f with
  | some (.ok (.publish i c p)) => some (i, c, p)
  | _ => none

/-- The guards are what the model has tested, or done, when it gets there: a frame is in the log before its
    handler runs; resubscriptions are queued after `when_connected` is set.  The rules bound what an action may do
    and no more: `dec` (like `Atom.net`) allows any buffers, since no invariant proved through the actions reads
    them; the decoder's own invariant is in BlkDecoder. -/
inductive Proto (cfg : Cfg) (s : State) : State × List Out → Prop
  | dec (u i : Bytes) : Proto cfg s ({ s with ubuf := u, inbound := i }, [])
  | note (f : Frame) : pubOf f = none → Proto cfg s (noteFrame s f, [])
  | pub (f : Frame) (m : Message) : pubOf f = some m →
      Proto cfg s ({ noteFrame s f with rq := s.rq ++ [m], received := s.received ++ [m] }, [])
  | info (f : Frame) (n rand : Bytes) : f ∈ s.processed → read f = some (.ok (.info n rand)) → s.live = true →
      Proto cfg s (markReady (rwrite s (authFrame cfg rand)) rand, [])
  | enq (f : Bytes) : s.ready = true → Proto cfg s (rwrite s f, [])
  | close : s.sockClosed = false → Proto cfg s ({ s with sockClosed := true }, [.closeSock s.gen])
  | crash : Proto cfg s ({ s with dead := true }, [.crash])

theorem Proto.live {cfg : Cfg} {s : State} {r : State × List Out} (a : Proto cfg s r) : r.1.live = s.live := by
  cases a <;> rfl

theorem Proto.wake_le {cfg : Cfg} {s : State} {r : State × List Out} (a : Proto cfg s r) : s.wake ≤ r.1.wake := by
  cases a with
  | info | enq => exact Nat.le_succ _
  | dec | note | pub | close | crash => exact Nat.le_refl _

theorem closeSock_proto (cfg : Cfg) (s : State) : Star (Proto cfg) s (closeSock s) := by
  unfold closeSock; split
  · exact .refl s
  · exact .atom (.close (Bool.eq_false_iff.mpr ‹_›))

theorem rwriteAll_proto (cfg : Cfg) (s : State) (fs : List Bytes) (hr : s.ready = true) :
    Star (Proto cfg) s (rwriteAll s fs, []) := by
  induction fs generalizing s with
  | nil => exact .refl s
  | cons f fs ih => exact .trans (.atom (Proto.enq f hr)) (ih (rwrite s f) hr)

theorem frame_proto (cfg : Cfg) (s : State) (f : Frame) (hl : s.live = true) :
    Star (Proto cfg) s ((onFrame cfg (noteFrame s f) f).1, (onFrame cfg (noteFrame s f) f).2.1) := by
  have noted (h : pubOf f = none) : Star (Proto cfg) s (noteFrame s f, []) := .atom (.note f h)
  have closes (h : pubOf f = none) : Star (Proto cfg) s (closeSock (noteFrame s f)) :=
    .trans (noted h) (closeSock_proto cfg _)
  unfold onFrame
  cases h : read f with
  | none => exact closes (by simp [pubOf, h])
  | some r =>
    cases r with
    | error _ => exact noted (by simp [pubOf, h])
    | ok m =>
      cases m with
      | error _ => exact noted (by simp [pubOf, h])
      | info n rand =>
        exact .trans (.trans (noted (by simp [pubOf, h])) (.atom (.info f n rand (by simp [noteFrame]) h hl)))
          (rwriteAll_proto cfg _ _ rfl)
      | publish i c p => exact .atom (.pub f (i, c, p) (by simp [pubOf, h]))
      | auth | subscribe | unsubscribe => exact closes (by simp [pubOf, h])

theorem dispatch_proto (cfg : Cfg) (s : State) (fs : List Frame) (hl : s.live = true) :
    Star (Proto cfg) s ((dispatch cfg s fs).1, (dispatch cfg s fs).2.1) := by
  induction fs generalizing s with
  | nil => exact .refl s
  | cons f fs ih =>
    have h1 := frame_proto cfg s f hl
    simp only [dispatch]; split
    · exact h1
    · exact .trans h1 (ih _ (h1.preserves (·.live = true) (fun a h => a.live.trans h) hl))

theorem dataReceived_proto (cfg : Cfg) (s : State) (c : Bytes) (hl : s.live = true) :
    Star (Proto cfg) s (dataReceived cfg s c) := by
  have h := dispatch_proto cfg { s with inbound := s.inbound ++ c } (drain (s.ubuf ++ c)).1 hl
  unfold dataReceived; simp only
  generalize dispatch cfg { s with inbound := s.inbound ++ c } (drain (s.ubuf ++ c)).1 = r at h ⊢
  replace h : Star (Proto cfg) s (r.1, r.2.1) := .trans (.atom (Proto.dec s.ubuf (s.inbound ++ c))) h
  split
  · next rest _ => exact (h.silent (.dec (rest.flatMap enc ++ (drain (s.ubuf ++ c)).2.1) r.1.inbound)).trans (.atom .crash)
  · split
    · exact h.silent (.dec _ r.1.inbound)
    · exact (h.silent (.dec _ r.1.inbound)).trans (closeSock_proto cfg _)

/-- One action per branch of `step` and of the reactor's functions.  `net`: the network delivers (`inb`, `eof`)
    or `recv()` takes a chunk off.  `stale`, `wakeStale`: the thread's outbox is not the current one; `unready`:
    `when_connected` was not set. -/
inductive Atom (cfg : Cfg) (s : State) : State × List Out → Prop
  | data (c : Bytes) : s.live = true → Atom cfg s (dataReceived cfg s c)
  | net (p : List Bytes) (e : Bool) : Atom cfg s ({ s with pendingIn := p, eof := e }, [])
  | block : Atom cfg s (s, [.block])
  | crash : Atom cfg s ({ s with dead := true }, [.crash])
  | lost : Atom cfg s (connectionLost s)
  | take (f : Bytes) (r : List Bytes) : s.items = f :: r → 0 < s.wake →
      Atom cfg s ({ s with items := r, wake := s.wake - 1, buffer := s.buffer ++ f }, [])
  | send (k : Nat) :
      Atom cfg s ({ s with buffer := s.buffer.drop k, wire := s.wire ++ s.buffer.take k }, [.sent s.gen (s.buffer.take k)])
  | connect : s.live = false →
      Atom cfg s ({ s with gen := s.gen + 1, live := true, sockClosed := false, items := [], wake := 0, mid := 0,
                           buffer := [], ubuf := [], pendingIn := [], eof := false,
                           wire := [], enq := [], inbound := [], processed := [], nonce := none }, [])
  | wBegin (t : Nat) (f : Bytes) (subs : List Bytes) : s.thr t = .idle →
      Atom cfg s ({ s with subs := subs, thr := fun u => if u = t then .captured s.gen f else s.thr u }, [])
  | put (t : Nat) (f : Bytes) : s.thr t = .captured s.gen f → s.ready = true →
      Atom cfg s ({ s with thr := fun u => if u = t then .midPut s.gen else s.thr u,
                           items := s.items ++ [f], mid := s.mid + 1, enq := s.enq ++ [f] }, [])
  | stale (t g : Nat) (f : Bytes) : s.thr t = .captured g f → g ≠ s.gen →
      Atom cfg s ({ s with thr := fun u => if u = t then .midPut g else s.thr u }, [])
  | unready (t g : Nat) (f : Bytes) : s.thr t = .captured g f →
      Atom cfg s ({ s with thr := fun u => if u = t then .idle else s.thr u }, [])
  | wake (t : Nat) : s.thr t = .midPut s.gen →
      Atom cfg s ({ s with thr := fun u => if u = t then .idle else s.thr u, wake := s.wake + 1, mid := s.mid - 1 }, [])
  | wakeStale (t g : Nat) : s.thr t = .midPut g → g ≠ s.gen →
      Atom cfg s ({ s with thr := fun u => if u = t then .idle else s.thr u }, [])
  | read (m : Message) (q : List Message) : s.rq = m :: q →
      Atom cfg s ({ s with rq := q, handed := s.handed ++ [m] }, [.handed m])

theorem writeReady_atoms (cfg : Cfg) (s : State) (o : Send) : Star (Atom cfg) s (writeReady s o) := by
  fun_cases writeReady s o
  · exact .atom .crash
  · exact .refl s
  · exact .atom .lost
  · exact .atom (.send _)

theorem outboxReady_atoms (cfg : Cfg) (s : State) (o : Send) (hw : 0 < s.wake) : Star (Atom cfg) s (outboxReady s o) := by
  fun_cases outboxReady s o
  · exact .refl s
  · exact .trans (.atom (.take _ _ ‹_› hw)) (writeReady_atoms cfg _ o)

/-- the wake-up bytes select() saw at the start of the round are still there after the read phase -/
theorem readPhase_atoms (cfg : Cfg) (s : State) (hl : s.live = true) :
    Star (Atom cfg) s ((readPhase cfg s).1, (readPhase cfg s).2.1) ∧
    ((readPhase cfg s).2.2 = true → s.wake ≤ (readPhase cfg s).1.wake) := by
  fun_cases readPhase cfg s
  · rename_i s' _
    exact ⟨.trans (.atom (Atom.net _ s.eof)) (.atom (Atom.data _ hl)), fun _ =>
      (dataReceived_proto cfg s' _ hl).preserves (s.wake ≤ ·.wake) (fun a h => Nat.le_trans h a.wake_le) (Nat.le_refl _)⟩
  · exact ⟨.atom .lost, nofun⟩
  · exact ⟨.refl s, fun _ => Nat.le_refl _⟩

theorem select_atoms (cfg : Cfg) (s : State) (o : Send) (hl : s.live = true) : Star (Atom cfg) s (select cfg s o) := by
  have ⟨hr, hw⟩ := readPhase_atoms cfg s hl
  fun_cases select cfg s o
  · exact .atom .crash
  · exact .atom .block
  · exact hr
  · rename_i hcont hout _
    exact .trans hr (outboxReady_atoms cfg _ o (Nat.lt_of_lt_of_le hout.2 (hw (Classical.not_not.mp hcont))))
  · exact .trans hr (writeReady_atoms cfg _ o)
  · exact hr

theorem step_atoms (cfg : Cfg) (s : State) (e : Ev) : Star (Atom cfg) s (step cfg s e) := by
  fun_cases step cfg s e
  case case2 h => exact .atom (.connect (Bool.eq_false_iff.mpr (not_or.mp h).1))
  case case3 b _ => exact .atom (.net (s.pendingIn ++ [b]) s.eof)
  case case5 => exact .atom (.net s.pendingIn true)
  case case7 o h => exact select_atoms cfg s o h.1
  case case10 t op h _ => exact .atom (.wBegin t _ _ (Classical.not_not.mp h))
  case case11 t f hr h _ => exact .atom (.put t f h hr)
  case case12 t g f h _ _ hg => exact .atom (.stale t g f h hg)
  case case13 t g f h _ => exact .atom (.unready t g f h)
  case case15 t _ h => exact .atom (.wake t h)
  case case16 t g h _ hg => exact .atom (.wakeStale t g h hg)
  case case18 m q h => exact .atom (.read m q h)
  all_goals exact .refl s

end Hpfeeds.BlkSession
