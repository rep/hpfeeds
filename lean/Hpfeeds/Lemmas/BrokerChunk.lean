/-
  Chunking is irrelevant to the broker: the frame loop never reads or writes the (stale) `buf` field of a
  connection record (`loop_sb`: it commutes with `setBuf` on ANY connection), and a loop pass over `a ++ b` is the
  pass over `a` continued over the rest ++ `b` (`loop_append`).  That nothing reads `buf` is shown compositionally:
  `Comm p` says that `p` commutes with `setBuf`; record updates that are `BufFree` do, and compositions, folds, branches
  and reads of a record that do not look at its `buf` keep it.
-/
import Hpfeeds.Lemmas.BrokerMono
namespace Hpfeeds.Broker
open Hpfeeds Extracted

def Conn.wb (β : Bytes) (x : Conn) : Conn := { x with buf := β }

theorem setBuf_eq (s : State) (k : Nat) (β : Bytes) : setBuf s k β = s.upd k (Conn.wb β) := rfl

theorem state_ext {s t : State} (h1 : s.conn = t.conn) (h2 : s.ids = t.ids) (h3 : s.subs = t.subs) (h4 : s.now = t.now)
    (h5 : s.gConns = t.gConns) (h6 : s.gSubs = t.gSubs) (h7 : s.cMade = t.cMade) (h8 : s.cLost = t.cLost)
    (h9 : s.labels = t.labels) (h10 : s.accepted = t.accepted) : s = t := by
  cases s; cases t; simp_all

def BufFree (f : Conn → Conn) : Prop := ∀ β x, f (Conn.wb β x) = Conn.wb β (f x)

theorem conn_setBuf (s : State) (k : Nat) (β : Bytes) (d : Nat) :
    (setBuf s k β).conn d = if d = k then (s.conn d).map (Conn.wb β) else s.conn d := rfl

theorem upd_comm (s : State) (k d : Nat) (β : Bytes) (f : Conn → Conn) (hf : BufFree f) :
    (setBuf s k β).upd d f = setBuf (s.upd d f) k β := by
  apply state_ext <;> try rfl
  funext j
  rw [upd_conn, conn_setBuf, conn_setBuf, upd_conn]
  by_cases hjd : j = d
  · by_cases hjk : j = k
    · rw [if_pos hjd, if_pos hjk, if_pos hjk, if_pos hjd]
      cases s.conn j with
      | none => rfl
      | some x => simp only [Option.map_some]; rw [hf β x]
    · rw [if_pos hjd, if_neg hjk, if_neg hjk, if_pos hjd]
  · by_cases hjk : j = k
    · rw [if_neg hjd, if_pos hjk, if_pos hjk, if_neg hjd]
    · rw [if_neg hjd, if_neg hjk, if_neg hjk, if_neg hjd]

theorem conn_sb_none {s : State} {c : Nat} (k : Nat) (β : Bytes) (h : s.conn c = none) : (setBuf s k β).conn c = none := by
  rw [conn_setBuf, h]; split <;> rfl
theorem conn_sb_self {s : State} {c : Nat} {x : Conn} (β : Bytes) (h : s.conn c = some x) :
    (setBuf s c β).conn c = some (Conn.wb β x) :=
  upd_conn_self h
theorem conn_sb_ne {s : State} {c k : Nat} (β : Bytes) (h : c ≠ k) : (setBuf s k β).conn c = s.conn c := by
  rw [conn_setBuf, if_neg h]

theorem sb_cases (s : State) (k d : Nat) (β : Bytes) :
    (s.conn d = none ∧ (setBuf s k β).conn d = none) ∨
    (∃ x β', s.conn d = some x ∧ (setBuf s k β).conn d = some (Conn.wb β' x)) := by
  cases hx : s.conn d with
  | none => exact Or.inl ⟨rfl, conn_sb_none k β hx⟩
  | some x =>
    right
    by_cases h : d = k
    · subst h; exact ⟨x, β, rfl, conn_sb_self β hx⟩
    · exact ⟨x, x.buf, rfl, by rw [conn_sb_ne β h, hx]; rfl⟩

def Comm (p : State → State) : Prop := ∀ s k β, p (setBuf s k β) = setBuf (p s) k β

def CommP {γ : Type} (p : State → State × γ) : Prop :=
  ∀ s k β, p (setBuf s k β) = (setBuf (p s).1 k β, (p s).2)

theorem Comm.eq {p : State → State} (h : Comm p) (s : State) (k : Nat) (β : Bytes) :
    p (setBuf s k β) = setBuf (p s) k β := h s k β

theorem CommP.eq {γ : Type} {p : State → State × γ} (h : CommP p) (s : State) (k : Nat) (β : Bytes) :
    p (setBuf s k β) = (setBuf (p s).1 k β, (p s).2) := h s k β

theorem comm_upd (d : Nat) (f : Conn → Conn) (hf : BufFree f) : Comm (fun s => s.upd d f) :=
  fun s k β => upd_comm s k d β f hf

theorem Comm.id : Comm (fun s => s) := fun _ _ _ => rfl

theorem Comm.comp {p q : State → State} (hq : Comm q) (hp : Comm p) : Comm (fun s => q (p s)) := by
  intro s k β
  show q (p (setBuf s k β)) = _
  rw [hp, hq]

theorem Comm.ite {A : Prop} [Decidable A] {p q : State → State} (hp : Comm p) (hq : Comm q) :
    Comm (fun s => if A then p s else q s) := by
  intro s k β
  show (if A then _ else _) = setBuf (if A then _ else _) k β
  split
  · exact hp s k β
  · exact hq s k β

theorem Comm.foldl {α : Type} {g : State → α → State} (hg : ∀ a, Comm (fun s => g s a)) (l : List α) :
    Comm (fun s => l.foldl g s) := by
  induction l with
  | nil => exact .id
  | cons a l ih => exact ih.comp (hg a)

theorem Comm.pair {γ : Type} {p : State → State} (hp : Comm p) (g : γ) : CommP (fun s => (p s, g)) := by
  intro s k β
  show (p (setBuf s k β), g) = _
  rw [hp]

theorem CommP.ite {γ : Type} {A : Prop} [Decidable A] {p q : State → State × γ} (hp : CommP p) (hq : CommP q) :
    CommP (fun s => if A then p s else q s) := by
  intro s k β
  show (if A then p (setBuf s k β) else q (setBuf s k β)) =
    (setBuf (if A then p s else q s).1 k β, (if A then p s else q s).2)
  split
  · exact hp s k β
  · exact hq s k β

theorem comm_ofConn (c : Nat) (q : Conn → State → State) (hq : ∀ β x, q (Conn.wb β x) = q x) (hc : ∀ x, Comm (q x)) :
    Comm (fun s => match s.conn c with | none => s | some x => q x s) := by
  intro s k β
  rcases sb_cases s k c β with ⟨h1, h2⟩ | ⟨x, β', h1, h2⟩
  · simp only [h1, h2]
  · simp only [h1, h2, hq]
    exact hc x s k β

theorem commP_ofConn {γ : Type} (c : Nat) (g : γ) (q : Conn → State → State × γ) (hq : ∀ β x, q (Conn.wb β x) = q x)
    (hc : ∀ x, CommP (q x)) : CommP (fun s => match s.conn c with | none => (s, g) | some x => q x s) := by
  intro s k β
  rcases sb_cases s k c β with ⟨h1, h2⟩ | ⟨x, β', h1, h2⟩
  · simp only [h1, h2]
  · simp only [h1, h2, hq]
    exact hc x s k β

theorem comm_logAct (d : Nat) (a : Act) : Comm (fun s => logAct s d a) :=
  fun s k β => upd_comm s k d β _ (fun _ _ => rfl)

theorem comm_closeT (d : Nat) : Comm (fun s => closeT s d) := fun s k β =>
  upd_comm s k d β _ fun β x => by
    rcases Bool.eq_false_or_eq_true x.closing with hc | hc <;> simp [Conn.wb, Conn.beginClose, hc]

theorem comm_errorClose (d : Nat) : Comm (fun s => errorClose s d) :=
  (comm_closeT d).comp (comm_logAct d _)

theorem comm_pauseReading (c : Nat) : Comm (fun s => pauseReading s c) := by
  intro s k β
  show pauseReading (setBuf s k β) c = setBuf (pauseReading s c) k β
  unfold pauseReading
  rcases sb_cases s k c β with ⟨h1, h2⟩ | ⟨x, β', h1, h2⟩
  · rw [h1, h2]
  · rw [h1, h2]
    exact Comm.ite (A := (x.closing || x.paused) = true) .id
      ((comm_logAct c _).comp (comm_upd c _ (by intro _ _; rfl))) s k β

theorem comm_subscribe (c : Nat) (ch : Bytes) : Comm (fun s => subscribe s c ch) := by
  unfold subscribe
  exact comm_ofConn c _ (fun _ _ => rfl) fun x => .ite .id ((comm_upd c _ (by intro _ _; rfl)).comp fun _ _ _ => rfl)

theorem comm_unsubscribe (c : Nat) (ch : Bytes) : Comm (fun s => unsubscribe s c ch) := by
  unfold unsubscribe
  exact comm_ofConn c _ (fun _ _ => rfl) fun x => .ite ((comm_upd c _ (by intro _ _; rfl)).comp fun _ _ _ => rfl) .id

theorem comm_doSubscribe (c : Nat) (ch : Bytes) (ok : Bool) : Comm (fun s => doSubscribe s c ch ok) :=
  (comm_upd c _ (by intro _ _; rfl)).comp (comm_subscribe c ch)

theorem comm_doUnsubscribe (c : Nat) (ch : Bytes) : Comm (fun s => doUnsubscribe s c ch) :=
  (comm_upd c _ (by intro _ _; rfl)).comp (comm_unsubscribe c ch)

theorem comm_connectionLost (c : Nat) : Comm (fun s => connectionLost s c) := by
  unfold connectionLost
  exact comm_ofConn c _ (fun _ _ => rfl) fun x =>
    .ite ((comm_upd c _ (by intro _ _; rfl)).comp ((Comm.foldl (fun ch => comm_unsubscribe c ch) _).comp fun _ _ _ => rfl)) .id

theorem comm_deliver (f : Frame) (d : Nat) : Comm (fun s => deliver f s d) := by
  unfold deliver
  exact comm_ofConn d _ (fun _ _ => rfl) fun x => .ite (comm_connectionLost d) (comm_logAct d _)

theorem comm_setAuth (c : Nat) (i d : Bytes) (row : Row) : Comm (fun s => setAuth s c i d row) := by
  unfold setAuth
  exact comm_ofConn c _ (fun _ _ => rfl) fun x => (comm_upd c _ (by intro _ _; rfl)).comp fun _ _ _ => rfl

theorem authOk_wb (cfg : Cfg) (β : Bytes) (x : Conn) (d : Bytes) (r : Lookup) :
    authOk cfg (Conn.wb β x) d r = authOk cfg x d r := by cases r <;> rfl

theorem comm_authenticate (cfg : Cfg) (c : Nat) (x : Conn) (i d : Bytes) (r : Lookup) :
    Comm (fun s => (authenticate cfg s c x i d r).1) := by
  unfold authenticate
  cases authOk cfg x d r with
  | none => exact comm_errorClose c
  | some row => exact (comm_logAct c _).comp (comm_setAuth c i d row)

theorem probe_sb (g : Conn → Bool) (hg : ∀ β x, g (Conn.wb β x) = g x) (s : State) (k : Nat) (β : Bytes) :
    (fun d => match (setBuf s k β).conn d with | some y => g y | none => false) =
    fun d => match s.conn d with | some y => g y | none => false := by
  funext d
  rcases sb_cases s k d β with ⟨h1, h2⟩ | ⟨x, β', h1, h2⟩ <;> rw [h1, h2]
  exact hg β' x

theorem comm_publish (src : Nat) (x : Conn) (ident ch p : Bytes) : Comm (fun s => publish s src x ident ch p) := by
  intro s k β
  show publish (setBuf s k β) src x ident ch p = setBuf (publish s src x ident ch p) k β
  unfold publish
  simp only
  have hsubs : (setBuf s k β).subs = s.subs := rfl
  have hids : (setBuf s k β).ids = s.ids := rfl
  have hnow : (setBuf s k β).now = s.now := rfl
  have h3 : isOpenSub (setBuf s k β) ch = isOpenSub s ch :=
    probe_sb (fun y => decide (ch ∈ y.active) && !y.closing) (fun _ _ => rfl) s k β
  rw [hsubs, hids, hnow, (Comm.foldl (fun d => comm_deliver (pubFrame ident ch p) d) _).eq, h3]
  have h1 := probe_sb (fun y => !y.closing) (fun _ _ => rfl) s k β
  have h2 := probe_sb (fun y => decide (ch ∈ y.granted)) (fun _ _ => rfl) s k β
  apply state_ext <;> try rfl
  show (List.foldl (deliver _) s _).accepted ++ [_] = (List.foldl (deliver _) s _).accepted ++ [_]
  refine congrArg (fun r => (List.foldl (deliver (pubFrame ident ch p)) s (s.subs ch).eraseDups).accepted ++ [r]) ?_
  simp only [Accepted.mk.injEq, true_and]
  refine ⟨congrArg (fun g => List.filter g (s.subs ch).eraseDups) h1, ?_⟩
  exact (congrArg (fun g => (List.filter g (s.subs ch).eraseDups).all _) h1).trans
    (congrArg (fun g => (List.filter _ (s.subs ch).eraseDups).all g) h2)

theorem commP_messageReceived (cfg : Cfg) (c : Nat) (f : Frame) : CommP (fun s => messageReceived cfg s c f) := by
  unfold messageReceived
  refine commP_ofConn c Ctl.cont _ ?_ ?_
  · intro β x
    funext s
    simp only [authOk_wb, authenticate, publish]
    rfl
  · intro x
    refine .ite ((comm_errorClose c).pair _) ?_
    cases read f with
    | none => exact (comm_closeT c).pair _
    | some e =>
      cases e with
      | error _ => exact Comm.id.pair _
      | ok m =>
        cases m with
        | error _ => exact Comm.id.pair _
        | info _ _ => exact Comm.id.pair _
        | auth i d =>
          refine .ite (Comm.id.pair _) ?_
          cases cfg.store with
          | sync tbl => exact (comm_authenticate cfg c x i d _).pair _
          | async => exact ((comm_pauseReading c).comp (comm_upd c _ (by intro _ _; rfl))).pair _
        | publish i ch p =>
          exact .ite ((comm_errorClose c).pair _) (.ite ((comm_errorClose c).pair _)
            (.ite (Comm.id.pair _) ((comm_publish c x i ch p).pair _)))
        | subscribe _ ch =>
          have h1 : Comm (fun s => if ch ∈ x.subchans then s else errorClose s c) := .ite .id (comm_errorClose c)
          exact .ite (h1.pair _) (((comm_doSubscribe c ch _).comp h1).pair _)
        | unsubscribe _ ch => exact .ite (Comm.id.pair _) ((comm_doUnsubscribe c ch).pair _)

theorem loop_sb (cfg : Cfg) (c : Nat) (k : Nat) (β : Bytes) :
    ∀ (buf : Bytes) (s : State), loop cfg c (setBuf s k β) buf =
      (setBuf (loop cfg c s buf).1 k β, (loop cfg c s buf).2) := by
  intro buf s
  fun_induction loop cfg c s buf with
  | case1 s buf hh => rw [loop_wait hh]
  | case2 s buf e hh => rw [loop_bad hh, (comm_closeT c).eq]
  | case3 s buf ml op hh r hr ih =>
    have hm := (commP_messageReceived cfg c (popFrame buf ml op).1).eq s k β
    rw [loop_cont hh (by rw [hm]; exact hr), hm]; exact ih
  | case4 s buf ml op hh r hr =>
    have hm := (commP_messageReceived cfg c (popFrame buf ml op).1).eq s k β
    rw [loop_stop hh (by rw [hm]; exact hr), hm]

/-- the hypotheses: the pass over `a` ran to the end of its complete frames (it did not park behind an asynchronous
    AUTH, no handler raised, no bad header) -/
theorem loop_append (cfg : Cfg) (c : Nat) :
    ∀ (a : Bytes) (s : State) (b : Bytes), (loop cfg c s a).2.2 = .cont → header (loop cfg c s a).2.1 = .wait →
      loop cfg c s (a ++ b) = loop cfg c (loop cfg c s a).1 ((loop cfg c s a).2.1 ++ b) := by
  intro a s b
  fun_induction loop cfg c s a with
  | case1 s a hh => intro _ _; rfl
  | case2 s a e hh => intro _ hw; rw [hh] at hw; cases hw
  | case3 s a ml op hh r hr ih =>
    intro hc hw
    rw [loop_cont (header_append_ok hh) (by rw [popFrame_append_ok hh]; exact hr), popFrame_append_ok hh]
    exact ih hc hw
  | case4 s a ml op hh r hr => intro hc _; exact absurd hc hr

theorem setBuf_setBuf (s : State) (c : Nat) (β γ : Bytes) : setBuf (setBuf s c β) c γ = setBuf s c γ :=
  upd_upd s c _ _

theorem data_chunking (cfg : Cfg) (s : State) (c : Nat) (x : Conn) (a b : Bytes) (hx : s.conn c = some x)
    (hc : (loop cfg c s (x.buf ++ a)).2.2 = .cont) (hw : header (loop cfg c s (x.buf ++ a)).2.1 = .wait) :
    step cfg (step cfg s (.data c a)) (.data c b) = step cfg s (.data c (a ++ b)) := by
  -- the first step stores the loop's remainder in the record (`h1`) and the second reads it back (`hb`)
  have h1 : step cfg s (.data c a) = setBuf (loop cfg c s (x.buf ++ a)).1 c (loop cfg c s (x.buf ++ a)).2.1 := by
    simp only [step, hx, hc]
    simp
  obtain ⟨y', hy', _⟩ := mono_step cfg s (.data c a) c x hx
  rw [h1] at hy' ⊢
  obtain ⟨y, -, rfl⟩ : ∃ y, (loop cfg c s (x.buf ++ a)).1.conn c = some y ∧ Conn.wb (loop cfg c s (x.buf ++ a)).2.1 y = y' := by
    simpa [conn_setBuf] using hy'
  simp only [step, hy', hx]
  have hb : (Conn.wb (loop cfg c s (x.buf ++ a)).2.1 y).buf = (loop cfg c s (x.buf ++ a)).2.1 := rfl
  rw [hb, loop_sb, ← List.append_assoc, loop_append cfg c (x.buf ++ a) s b hc hw]
  simp only [setBuf_setBuf]

end Hpfeeds.Broker
