/-
  The ghost fields are observable: the `handed` outputs are the ghost log of C12, and the `wrote k` outputs on the
  current connection are its ghost `sent`.  The outputs are what the harness compares with the values the real read()
  calls return and with the bytes the real transport `k` received.
-/
import Hpfeeds.Lemmas.Aio.Inv
namespace Hpfeeds.AioClient
open Hpfeeds Extracted

def Tr (s : State) (r : State × List Out) : Prop := r.1.handedLog = s.handedLog ++ r.2.filterMap handedOf

theorem tr_noteFrame (s : State) (f : Frame) : (noteFrame s f).handedLog = s.handedLog := rfl

theorem tr_of_log_eq {s s' : State} {o : List Out} (h : s'.handedLog = s.handedLog) (ho : o.filterMap handedOf = []) :
    Tr s (s', o) := by simp [Tr, h, ho]

theorem Step.tr {cfg : Cfg} {s s' : State} {e : Ev} {o : List Out} (hs : Step cfg s e s' o) : Tr s (s', o) := by
  cases hs with
  | call _ _ => exact (eff_write _ _).log
  | data b c c' L hc hg hcl hL hc' => exact (data_eff hc hL hc' _ _).log
  | readPop => simp [Tr, handedOf]
  | closeWait | lostClosing => exact tr_of_log_eq rfl (by split <;> rfl)
  | _ => exact tr_of_log_eq rfl rfl

theorem run_handed (cfg : Cfg) (es : List Ev) : (run cfg es).2.filterMap handedOf = (run cfg es).1.handedLog :=
  run_closed (P := fun acc => acc.2.filterMap handedOf = acc.1.handedLog)
    (fun hs h => by rw [List.filterMap_append, h]; exact hs.tr.symm) rfl es

structure GW (acc : State × List Out) : Prop where
  cur : ∀ c, acc.1.conn = some c → wroteOn c.k acc.2 = c.sent ∧ c.k ≤ acc.1.nconn
  future : ∀ k, acc.1.nconn < k → wroteOn k acc.2 = []

theorem GW.keep {s s' : State} {outs o : List Out} (h : GW (s, outs)) (hn : s'.nconn = s.nconn)
    (hc : ∀ c', s'.conn = some c' → ∃ c, s.conn = some c ∧ c'.k = c.k ∧ c'.sent = c.sent ++ wroteOn c.k o)
    (ho : ∀ k, (∀ c', s'.conn = some c' → c'.k ≠ k) → wroteOn k o = []) :
    GW (s', outs ++ o) ∧ ∀ k, (∀ c', s'.conn = some c' → c'.k ≠ k) → wroteOn k o = [] := by
  refine ⟨⟨fun c' hc' => ?_, fun k hk => ?_⟩, ho⟩
  · obtain ⟨c, e, ek, es⟩ := hc c' hc'
    obtain ⟨g1, g2⟩ := h.cur c e
    exact ⟨by rw [wroteOn_append, ek, g1, es], by rw [ek, hn]; exact g2⟩
  · rw [hn] at hk
    rw [wroteOn_append, h.future k hk, ho k fun c' hc' => ?_]; rfl
    obtain ⟨c, e, ek, _⟩ := hc c' hc'
    have : c.k ≤ s.nconn := (h.cur c e).2
    omega

theorem GW.eff {s s' : State} {outs o : List Out} (h : GW (s, outs)) (he : Eff s s' o) :
    GW (s', outs ++ o) ∧ ∀ k, (∀ c', s'.conn = some c' → c'.k ≠ k) → wroteOn k o = [] :=
  h.keep he.same.nconn he.sent he.other

theorem Step.gw {cfg : Cfg} {s s' : State} {e : Ev} {o outs : List Out} (hs : Step cfg s e s' o) (h : GW (s, outs)) :
    GW (s', outs ++ o) ∧ ∀ k, (∀ c', s'.conn = some c' → c'.k ≠ k) → wroteOn k o = [] := by
  cases hs with
  | @call _ w b _ _ => exact GW.eff (s := { s with subs := w }) ⟨h.cur, h.future⟩ (eff_write _ _)
  | closeWait c _ hc _ | lostClosing c hc _ _ =>
    exact h.keep rfl (fun c' hc' => by cases hc'; exact ⟨c, hc, rfl, by split <;> exact (List.append_nil _).symm⟩) fun k _ => by split <;> rfl
  | lostRetry | lostSleep => exact h.keep rfl (fun _ => nofun) fun _ _ => rfl
  | accept =>
    refine ⟨⟨fun c' hc' => ?_, fun k hk => ?_⟩, fun _ _ => rfl⟩
    · cases hc'; exact ⟨by rw [List.append_nil]; exact h.future _ (Nat.lt_succ_self _), Nat.le_refl _⟩
    · rw [List.append_nil]; exact h.future k (Nat.lt_of_succ_lt hk)
  | data b c c' L hc hg hcl hL hc' => exact h.eff (data_eff hc hL hc' _ _)
  | _ => exact h.keep rfl (fun c' hc' => ⟨c', hc', rfl, (List.append_nil _).symm⟩) fun _ _ => rfl

/-- what C11 says about one connection's writes -/
def Good (cfg : Cfg) (w : List Bytes) : Prop :=
  w = [] ∨ ∃ (rand : Bytes) (wanted later : List Bytes), w = authFrame cfg rand :: wanted.map (subFrame cfg) ++ later

theorem good_of_connOK {cfg : Cfg} {c : Conn} (h : ConnOK cfg c) : Good cfg c.sent := by
  cases hr : c.ready with
  | false => exact Or.inl (h.quiet hr).1
  | true =>
    obtain ⟨⟨rand, wanted⟩, hh⟩ := Option.isSome_iff_exists.mp (h.rdy hr)
    obtain ⟨⟨later, hl⟩, _⟩ := h.hs rand wanted hh
    exact Or.inr ⟨rand, wanted, later, hl⟩

theorem every_connection (cfg : Cfg) (es : List Ev) (k : Nat) : Good cfg (wroteOn k (run cfg es).2) := by
  refine (run_closed (P := fun acc => FullInv cfg acc.1 ∧ GW acc ∧ ∀ k, Good cfg (wroteOn k acc.2))
    (fun {s s' e outs o} hs ⟨hi, hg, hgood⟩ => ?_) ⟨full_init cfg, ⟨fun _ h => (by cases h), fun _ _ => rfl⟩, fun _ => .inl rfl⟩ es).2.2 k
  have hi' := full_Step hs hi
  obtain ⟨hg', hother⟩ := hs.gw hg
  refine ⟨hi', hg', fun k => ?_⟩
  by_cases hk' : ∃ c, s'.conn = some c ∧ c.k = k
  · obtain ⟨c, hc, rfl⟩ := hk'
    rw [(hg'.cur c hc).1]
    exact good_of_connOK (hi' c hc).1.ok
  · rw [wroteOn_append, hother k fun c hc hh => hk' ⟨c, hc, hh⟩, List.append_nil]
    exact hgood k

end Hpfeeds.AioClient
