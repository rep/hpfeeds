import Hpfeeds.Lemmas.Aio.Task
namespace Hpfeeds.AioClient
open Hpfeeds Extracted

theorem close_no_transport (cfg : Cfg) (s : State) (hs : s.task ≠ .notStarted) (hc : s.closeCalled = false)
    (hn : ∀ c, s.conn = some c → c.gone = true) :
    step cfg s .close = ({ s with closing := true, closeCalled := true, task := .done }, [.closeDone]) := by
  rw [step_of_started _ hs]
  cases hcn : s.conn with
  | none => simp [stepK, hc, hcn]
  | some c => simp [stepK, hc, hcn, hn c hcn]

theorem close_with_transport (cfg : Cfg) (s : State) (c : Conn) (hs : s.task ≠ .notStarted)
    (hc : s.closeCalled = false) (hn : s.conn = some c) (hg : c.gone = false) :
    step cfg s .close =
      ({ s with closing := true, closeCalled := true, closeWait := true, conn := some { c with closing := true } },
       if c.closing then [] else [.closeT c.k]) := by
  rw [step_of_started _ hs]
  simp only [stepK, hc, hn, hg, Bool.false_eq_true, if_false, List.nil_append]
  rw [closeT_some (s := { s with closing := true, closeCalled := true, conn := some c }) rfl]
  simp only [hg]

theorem lost_completes_close (cfg : Cfg) (s : State) (c : Conn) (hs : s.task ≠ .notStarted)
    (hn : s.conn = some c) (hg : c.gone = false) (hcl : s.closing = true) (hw : s.closeWait = true) :
    (step cfg s .lost).2 = [.closeDone] := by
  rw [step_of_started _ hs]
  simp [stepK, hn, hg, hcl, hw]

theorem step_lost (cfg : Cfg) (s : State) (c : Conn) (hs : s.task ≠ .notStarted) (hn : s.conn = some c)
    (hg : c.gone = false) (hcl : s.closing = false) :
    step cfg s .lost =
      if cfg.lossDelay = 0 then ({ s with conn := none, task := .connecting, attempts := s.attempts + 1 }, [.attempt])
      else ({ s with conn := none, task := .sleeping (s.now + cfg.lossDelay) }, []) := by
  rw [step_of_started _ hs]
  simp only [stepK, hn, hg, hcl, Bool.false_eq_true, if_false]
  split <;> rfl

theorem step_refuse (cfg : Cfg) (s : State) (hs : s.task = .connecting) :
    step cfg s .refuse = ({ s with task := .sleeping (s.now + cfg.retryDelay) }, []) := by
  rw [step_of_started _ (by rw [hs]; nofun)]
  simp [stepK, hs]

theorem step_advance (cfg : Cfg) (s : State) (t ms : Nat) (hs : s.task = .sleeping t) (ht : t ≤ s.now + ms) :
    step cfg s (.advance ms) =
      ({ s with now := s.now + ms, task := .connecting, attempts := s.attempts + 1 }, [.attempt]) := by
  rw [step_of_started _ (by rw [hs]; nofun)]
  simp [stepK, hs, ht]

theorem step_accept (cfg : Cfg) (s : State) (hs : s.task = .connecting) :
    step cfg s .accept =
      ({ s with task := .waiting, nconn := s.nconn + 1, conn := some { k := s.nconn + 1 } }, []) := by
  rw [step_of_started _ (by rw [hs]; nofun)]
  simp [stepK, hs]

theorem loop_nil (cfg : Cfg) (s : State) : loop cfg s [] = (s, [], [], .cont) := by
  rw [loop]; split <;> simp_all [header]

theorem loop_single (cfg : Cfg) (s : State) (f : Frame) (hf : f.WF) :
    loop cfg s (enc f) =
      ((onFrame cfg (noteFrame s f) f).1, (onFrame cfg (noteFrame s f) f).2.1, [], (onFrame cfg (noteFrame s f) f).2.2) := by
  have hh := header_enc f hf
  have hp := popFrame_enc f
  rw [loop]
  split
  · rename_i h'; rw [hh] at h'; cases h'
  · rename_i h'; rw [hh] at h'; cases h'
  · rename_i ml op h'
    rw [hh] at h'; cases h'
    simp only [hp, loop_nil, List.append_nil]
    split <;> (rename_i heq; rw [← heq])

/-- the OP_INFO in one piece; split across reads, the loop runs over the accumulated buffer (`stepK`, `.data`) -/
theorem loop_info (cfg : Cfg) (s : State) (c : Conn) (f : Frame) (n rand : Bytes) (hn : s.conn = some c)
    (hr : c.ready = false) (hg : c.gone = false) (hf : f.WF) (hrd : read f = some (.ok (.info n rand))) :
    loop cfg s (enc f) =
      ({ s with
          allProcessed := s.allProcessed ++ [f]
          conn := some { c with
            processed := c.processed ++ [f], ready := true, handshake := some (rand, sortBytes s.subs)
            sent := c.sent ++ authFrame cfg rand :: (sortBytes s.subs).map (subFrame cfg) } },
       .wrote c.k (authFrame cfg rand) :: (sortBytes s.subs).map fun ch => .wrote c.k (subFrame cfg ch), [], .cont) := by
  rw [loop_single cfg s f hf,
    onFrame_info (c := { c with processed := c.processed ++ [f] }) (by simp [noteFrame, hn]) hg hrd]
  simp only [hr, Bool.false_eq_true, if_false]
  rfl

def steps (cfg : Cfg) (s : State) (evs : List Ev) : State := evs.foldl (fun s e => (step cfg s e).1) s

theorem steps_cons (cfg : Cfg) (s : State) (e : Ev) (evs : List Ev) :
    steps cfg s (e :: evs) = steps cfg (step cfg s e).1 evs := rfl
theorem steps_nil (cfg : Cfg) (s : State) : steps cfg s [] = s := rfl
theorem steps_append (cfg : Cfg) (s : State) (a b : List Ev) : steps cfg s (a ++ b) = steps cfg (steps cfg s a) b :=
  List.foldl_append

theorem data_info_fresh (cfg : Cfg) (s : State) (k : Nat) (f : Frame) (n rand : Bytes)
    (hs : s.task ≠ .notStarted) (hc : s.conn = some { k := k }) (hf : f.WF)
    (hrd : read f = some (.ok (.info n rand))) :
    (step cfg s (.data (enc f))).2 =
      Out.wrote k (authFrame cfg rand) :: (sortBytes s.subs).map (fun ch => Out.wrote k (subFrame cfg ch)) ∧
    ∃ c', (step cfg s (.data (enc f))).1.conn = some c' ∧ c'.ready = true ∧ c'.gone = false ∧ c'.k = k := by
  have := loop_info cfg { s with conn := some { k := k, inbound := enc f } } _ f n rand rfl rfl rfl hf hrd
  rw [step_of_started _ hs]
  simp only [stepK, hc, Bool.false_eq_true, Bool.or_self, if_false, List.nil_append, this]
  exact ⟨List.append_nil _, _, rfl, rfl, rfl, rfl⟩

/-- From ANY state of a started session on which close() was not called, at most two events (the connection, if any,
    is lost; the retry timer, if armed, elapses) bring the task back to an attempt. -/
theorem reattempts (cfg : Cfg) (s : State) (ht : TInv s) (hs : s.task ≠ .notStarted) (hc : s.closeCalled = false) :
    ∃ (ms : Nat) (pre : List Ev), pre.Sublist [.lost, .advance ms] ∧
      (steps cfg s pre).task = .connecting ∧ (steps cfg s pre).nconn = s.nconn ∧ (steps cfg s pre).subs = s.subs := by
  obtain ⟨hcl, _, hnd⟩ := ht.opened hc
  cases htask : s.task with
  | notStarted => exact absurd htask hs
  | done => exact absurd htask hnd
  | connecting => exact ⟨0, [], List.nil_sublist _, htask, rfl, rfl⟩
  | sleeping t =>
    refine ⟨t - s.now, [.advance (t - s.now)], (List.Sublist.refl _).cons _, ?_⟩
    rw [steps_cons, steps_nil, step_advance cfg s t (t - s.now) htask (by omega)]
    exact ⟨rfl, rfl, rfl⟩
  | waiting =>
    obtain ⟨c, hcn, hg⟩ := ht.live.mpr htask
    by_cases hd : cfg.lossDelay = 0
    · refine ⟨0, [.lost], .cons_cons _ (List.nil_sublist _), ?_⟩
      rw [steps_cons, steps_nil, step_lost cfg s c hs hcn hg hcl, if_pos hd]
      exact ⟨rfl, rfl, rfl⟩
    · refine ⟨cfg.lossDelay, _, .refl _, ?_⟩
      rw [steps_cons, steps_cons, steps_nil, step_lost cfg s c hs hcn hg hcl, if_neg hd,
        step_advance cfg { s with conn := none, task := .sleeping (s.now + cfg.lossDelay) } (s.now + cfg.lossDelay)
          cfg.lossDelay rfl (Nat.le_refl _)]
      exact ⟨rfl, rfl, rfl⟩

end Hpfeeds.AioClient
