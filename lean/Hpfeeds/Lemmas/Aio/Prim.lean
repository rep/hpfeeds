import Hpfeeds.Model.AioClient
import Hpfeeds.Lemmas.Wire
namespace Hpfeeds.AioClient
open Hpfeeds Extracted

theorem write_live {s : State} {c : Conn} (b : Bytes) (hc : s.conn = some c) (hg : c.gone = false) :
    write s b = ({ s with conn := some { c with sent := c.sent ++ [b] } }, [.wrote c.k b]) := by
  simp [write, hc, hg]

theorem write_gone {s : State} {c : Conn} (b : Bytes) (hc : s.conn = some c) (hg : c.gone = true) :
    write s b = (s, []) := by
  simp [write, hc, hg]

theorem write_none {s : State} (b : Bytes) (hc : s.conn = none) : write s b = (s, []) := by
  simp [write, hc]

theorem closeT_some {s : State} {c : Conn} (hc : s.conn = some c) :
    closeT s = ({ s with conn := some { c with closing := true } }, if c.closing then [] else [.closeT c.k]) := by
  cases hcl : c.closing with
  | false => simp [closeT, hc, hcl]
  | true =>
    have : ({ c with closing := true } : Conn) = c := by rw [← hcl]
    simp only [closeT, hc, hcl, if_true, this]
    rw [← hc]

theorem closeT_none {s : State} (hc : s.conn = none) : closeT s = (s, []) := by
  simp [closeT, hc]

theorem closeT_closed (s : State) : ∀ c, (closeT s).1.conn = some c → c.closing = true := by
  intro c' h
  cases hc : s.conn with
  | none => rw [closeT_none hc, hc] at h; cases h
  | some c => rw [closeT_some hc] at h; cases h; rfl

theorem writeAll_nil (s : State) : writeAll s [] = (s, []) := rfl

theorem writeAll_fold (bs : List Bytes) : ∀ (t : State) (o : List Out),
    bs.foldl (fun acc b => let r := write acc.1 b; (r.1, acc.2 ++ r.2)) (t, o) =
      ((writeAll t bs).1, o ++ (writeAll t bs).2) := by
  unfold writeAll
  induction bs with
  | nil => intro t o; simp
  | cons b bs ih =>
    intro t o
    simp only [List.foldl_cons, List.nil_append]
    rw [ih, ih (write t b).1 (write t b).2, List.append_assoc]

theorem writeAll_cons (s : State) (b : Bytes) (bs : List Bytes) :
    writeAll s (b :: bs) = ((writeAll (write s b).1 bs).1, (write s b).2 ++ (writeAll (write s b).1 bs).2) := by
  rw [writeAll, List.foldl_cons]
  exact (writeAll_fold bs _ _).trans (by rw [List.nil_append])

theorem writeAll_live {s : State} {c : Conn} (bs : List Bytes) (hc : s.conn = some c) (hg : c.gone = false) :
    writeAll s bs = ({ s with conn := some { c with sent := c.sent ++ bs } }, bs.map (.wrote c.k)) := by
  induction bs generalizing s c with
  | nil => simp [writeAll_nil, ← hc]
  | cons b bs ih => rw [writeAll_cons, write_live b hc hg, ih (c := { c with sent := c.sent ++ [b] }) rfl hg]; simp

theorem onFrame_info {cfg : Cfg} {s : State} {c : Conn} {f : Frame} {n rand : Bytes} (hc : s.conn = some c)
    (hg : c.gone = false) (hrd : read f = some (.ok (.info n rand))) :
    onFrame cfg s f =
      ({ s with conn := some { c with
          ready := true
          sent := c.sent ++ authFrame cfg rand :: (sortBytes s.subs).map (subFrame cfg)
          handshake := if c.ready then c.handshake else some (rand, sortBytes s.subs) } },
       .wrote c.k (authFrame cfg rand) :: (sortBytes s.subs).map fun ch => .wrote c.k (subFrame cfg ch),
       if c.ready then .crash else .cont) := by
  simp only [onFrame, hrd, hc, write_live _ hc hg]
  rw [writeAll_live (c := { c with
    ready := true, sent := c.sent ++ [authFrame cfg rand]
    handshake := if c.ready then c.handshake else some (rand, sortBytes s.subs) }) _ rfl hg]
  simp [List.map_map, Function.comp_def]

def pubOf (f : Frame) : Option Message :=
  match read f with
  | some (.ok (.publish i c p)) => some (i, c, p)
  | _ => none

theorem deliver_conn (s : State) (m : Message) : (deliver s m).1.conn = s.conn := by
  unfold deliver; simp only; split <;> rfl

theorem write_frame (s : State) (b : Bytes) : (write s b).1 = { s with conn := (write s b).1.conn } := by
  unfold write; split
  · rfl
  · split <;> rfl

theorem closeT_frame (s : State) : (closeT s).1 = { s with conn := (closeT s).1.conn } := by
  unfold closeT; split
  · rfl
  · split <;> rfl

theorem writeAll_frame (s : State) (bs : List Bytes) : (writeAll s bs).1 = { s with conn := (writeAll s bs).1.conn } := by
  induction bs generalizing s with
  | nil => rfl
  | cons b bs ih => rw [writeAll_cons]; exact (ih _).trans (by rw [write_frame s b])

theorem onFrame_cases (cfg : Cfg) (s : State) (f : Frame) :
    (pubOf f = none ∧ (onFrame cfg s f).1 = { s with conn := (onFrame cfg s f).1.conn } ∧
      ((onFrame cfg s f).1.conn = s.conn ∨ (onFrame cfg s f).1.conn = (closeT s).1.conn ∨
        ∃ n rand c, s.conn = some c ∧ read f = some (.ok (.info n rand)))) ∨
    ∃ m, pubOf f = some m ∧ (onFrame cfg s f).1 = (deliver s m).1 := by
  -- the cases of `onFrame`: 1 unknown opcode, 2 a field reader raises, 3 OP_ERROR, 4 and 5 OP_INFO without and with a
  -- connection, 6 to 8 OP_AUTH, OP_SUBSCRIBE, OP_UNSUBSCRIBE, 9 OP_PUBLISH
  fun_cases onFrame cfg s f
  case case9 i c p r hrd => exact .inr ⟨(i, c, p), by simp [pubOf, hrd], rfl⟩
  case case5 n rand c hc again r1 wanted s1 s2 r3 hrd =>
    refine .inl ⟨by simp [pubOf, hrd], ?_, .inr (.inr ⟨n, rand, c, hc, hrd⟩)⟩
    have h1 : ∀ oc, ({ s1 with conn := oc } : State) = { s with conn := oc } := fun oc => by
      rw [show s1 = _ from write_frame s _]
    have h2 : ∀ oc, ({ s2 with conn := oc } : State) = { s with conn := oc } := fun oc => by
      cases hs1 : s1.conn <;> simp only [s2, hs1] <;> exact h1 oc
    exact (writeAll_frame s2 _).trans (h2 _)
  all_goals first
    | exact .inl ⟨by simp [pubOf, *], rfl, .inl rfl⟩
    | exact .inl ⟨by simp [pubOf, *], closeT_frame s, .inr (.inl rfl)⟩

theorem perm_insertSorted (x : Bytes) (l : List Bytes) : (insertSorted x l).Perm (x :: l) := by
  induction l with
  | nil => exact .refl _
  | cons a l ih =>
    simp only [insertSorted]
    split
    · exact .refl _
    · exact (ih.cons a).trans (.swap x a l)

theorem perm_sortBytes (l : List Bytes) : (sortBytes l).Perm l := by
  induction l with
  | nil => exact .refl _
  | cons a l ih => exact (perm_insertSorted a _).trans (ih.cons a)

theorem mem_sortBytes (l : List Bytes) (y : Bytes) : y ∈ sortBytes l ↔ y ∈ l := (perm_sortBytes l).mem_iff

theorem length_sortBytes (l : List Bytes) : (sortBytes l).length = l.length := (perm_sortBytes l).length_eq

end Hpfeeds.AioClient
