import Hpfeeds.Lemmas.Aio.Step
namespace Hpfeeds.AioClient
open Hpfeeds Extracted

structure TInv (s : State) : Prop where
  live : (∃ c, s.conn = some c ∧ c.gone = false) ↔ s.task = .waiting
  closed : s.closeCalled = true → s.closing = true ∧ (s.task = .done ∨ s.task = .waiting)
  opened : s.closeCalled = false → s.closing = false ∧ s.closeWait = false ∧ s.task ≠ .done
  wait : s.closeWait = true → s.task = .waiting

/-- the part of the state the task invariant reads -/
structure TSame (s s' : State) : Prop where
  task : s'.task = s.task
  closing : s'.closing = s.closing
  closeWait : s'.closeWait = s.closeWait
  closeCalled : s'.closeCalled = s.closeCalled
  conn : (s'.conn.map fun c => (c.k, c.gone)) = (s.conn.map fun c => (c.k, c.gone))

theorem tinv_of_tsame {s s' : State} (h : TInv s) (hs : TSame s s') : TInv s' := by
  have hl : (∃ c, s'.conn = some c ∧ c.gone = false) ↔ (∃ c, s.conn = some c ∧ c.gone = false) := by
    have := hs.conn
    cases h1 : s.conn <;> cases h2 : s'.conn <;> simp_all
  exact ⟨by rw [hl, hs.task]; exact h.live, by rw [hs.closeCalled, hs.closing, hs.task]; exact h.closed,
    by rw [hs.closeCalled, hs.closing, hs.closeWait, hs.task]; exact h.opened,
    by rw [hs.closeWait, hs.task]; exact h.wait⟩

theorem tinv_of_same {s s' : State} (hs : Same s s') (h : TInv s) : TInv s' :=
  tinv_of_tsame h ⟨hs.task, hs.closing, hs.closeWait, hs.closeCalled, hs.conn⟩

theorem tinv_init : TInv {} :=
  ⟨⟨fun ⟨_, hc, _⟩ => (nomatch hc), fun h => (nomatch h)⟩, fun h => (nomatch h),
   fun _ => ⟨rfl, rfl, fun h => (nomatch h)⟩, fun h => (nomatch h)⟩

theorem TInv.not_called {s : State} (h : TInv s) (h1 : s.task ≠ .done) (h2 : s.task ≠ .waiting) :
    s.closeCalled = false := by
  cases hc : s.closeCalled with
  | false => rfl
  | true => rcases (h.closed hc).2 with h' | h' <;> contradiction

theorem TInv.not_called_of_open {s : State} (h : TInv s) (hcl : s.closing = false) : s.closeCalled = false := by
  cases hc : s.closeCalled with
  | false => rfl
  | true => rw [(h.closed hc).1] at hcl; cases hcl

theorem TInv.retask {s s' : State} (h : TInv s) (hcc : s.closeCalled = false) (e1 : s'.closing = s.closing)
    (e2 : s'.closeWait = s.closeWait) (e3 : s'.closeCalled = s.closeCalled)
    (hl : ∀ c, s'.conn = some c → c.gone = true) (t1 : s'.task ≠ .waiting) (t2 : s'.task ≠ .done) : TInv s' := by
  obtain ⟨o1, o2, _⟩ := h.opened hcc
  refine ⟨⟨?_, fun h' => absurd h' t1⟩, ?_, fun _ => ⟨e1.trans o1, e2.trans o2, t2⟩, ?_⟩
  · rintro ⟨c, hc, hg⟩; rw [hl c hc] at hg; cases hg
  · intro h'; rw [e3, hcc] at h'; cases h'
  · intro h'; rw [e2, o2] at h'; cases h'

theorem TInv.dead {s : State} (h : TInv s) (hw : s.task ≠ .waiting) : ∀ c, s.conn = some c → c.gone = true := by
  intro c hc
  cases hg : c.gone with
  | true => rfl
  | false => exact absurd (h.live.mp ⟨c, hc, hg⟩) hw

theorem tinv_Step {cfg : Cfg} {s s' : State} {e : Ev} {o : List Out} (hs : Step cfg s e s' o) (h : TInv s) :
    TInv s' := by
  cases hs with
  | skip => exact h
  | start ht | refuse ht | due _ _ ht _ =>
    have hw : s.task ≠ .waiting := by rw [ht]; nofun
    exact h.retask (h.not_called (by rw [ht]; nofun) hw) rfl rfl rfl (h.dead hw) nofun nofun
  | call _ _ => exact tinv_of_same (eff_write _ _).same (tinv_of_tsame h ⟨rfl, rfl, rfl, rfl, rfl⟩)
  | mute | readPop | readWait | tick => exact tinv_of_tsame h ⟨rfl, rfl, rfl, rfl, rfl⟩
  | closeNow hcc hc =>
    refine ⟨⟨?_, nofun⟩, fun _ => ⟨rfl, .inl rfl⟩, nofun, fun hw => ?_⟩
    · rintro ⟨c, h1, h2⟩; rw [hc c h1] at h2; cases h2
    · have := (h.opened hcc).2.1; rw [show s.closeWait = true from hw] at this; cases this
  | closeWait c hcc hc hg =>
    have hw := h.live.mp ⟨c, hc, hg⟩
    exact ⟨⟨fun _ => hw, fun _ => ⟨_, rfl, hg⟩⟩, fun _ => ⟨rfl, .inr hw⟩, nofun, fun _ => hw⟩
  | accept ht =>
    have hcc := h.not_called (by rw [ht]; nofun) (by rw [ht]; nofun)
    exact ⟨⟨fun _ => rfl, fun _ => ⟨_, rfl, rfl⟩⟩, fun hc => (by rw [show s.closeCalled = true from hc] at hcc; cases hcc),
      fun _ => ⟨(h.opened hcc).1, (h.opened hcc).2.1, nofun⟩, fun _ => rfl⟩
  | data b c c' L hc hg hcl hL hc' => exact tinv_of_same (data_eff hc hL hc' _ _).same h
  | lostClosing c hc hg hcl =>
    refine ⟨⟨?_, nofun⟩, fun _ => ⟨hcl, .inl rfl⟩, fun h' => ?_, nofun⟩
    · rintro ⟨c', h1, h2⟩; cases h1; cases h2
    · rw [(h.opened h').1] at hcl; cases hcl
  | lostRetry _ _ _ hcl _ | lostSleep _ _ _ hcl _ =>
    exact h.retask (h.not_called_of_open hcl) rfl rfl rfl (fun _ => nofun) nofun nofun

theorem Step.started {cfg : Cfg} {s s' : State} {e : Ev} {o : List Out} (hs : Step cfg s e s' o)
    (h : s.task ≠ .notStarted) : s'.task ≠ .notStarted := by
  cases hs with
  | call _ _ => rw [(eff_write _ _).same.task]; exact h
  | data b c c' L hc hg hcl hL hc' => rw [(data_eff hc hL hc' _ _).same.task]; exact h
  | skip | mute | readPop | readWait | tick | closeWait => exact h
  | start | closeNow | accept | refuse | due | lostClosing | lostRetry | lostSleep => nofun

theorem step_started (cfg : Cfg) (s : State) (e : Ev) (h : s.task ≠ .notStarted ∨ cfg.autoStart = true) :
    (step cfg s e).1.task ≠ .notStarted := by
  have ⟨_, hs, _⟩ := stepK_step cfg (kick cfg s).1 (kick cfg s).2 e
  refine hs.started ?_
  rcases h with h | h
  · rw [kick_of_started h]; exact h
  · exact kick_started cfg s h

theorem Eff.no_attempt {s s' : State} {o : List Out} (h : Eff s s' o) :
    s'.attempts = s.attempts ∧ Out.attempt ∉ o :=
  ⟨h.same.attempts, h.noatt⟩

theorem no_attempt_after_close (cfg : Cfg) (s : State) (e : Ev) (h : TInv s) (hc : s.closeCalled = true) :
    (step cfg s e).1.attempts = s.attempts ∧ Out.attempt ∉ (step cfg s e).2 := by
  obtain ⟨hcl, ht⟩ := h.closed hc
  have hn : s.task ≠ .notStarted := by rcases ht with h' | h' <;> (rw [h']; nofun)
  obtain ⟨o, hs, ho⟩ := stepK_step cfg s [] e
  rw [step_of_started e hn, ho, List.nil_append]
  generalize (stepK cfg s [] e).1 = s' at hs ⊢
  -- the three rules that attempt need: a task that has not started / a sleeping task / a session that is not closing
  cases hs with
  | call _ _ => exact (eff_write _ _).no_attempt
  | data b c c' L hc hg hcl hL hc' => exact (data_eff hc hL hc' _ _).no_attempt
  | start h' | due _ _ h' _ => rcases ht with h | h <;> (rw [h] at h'; cases h')
  | lostRetry _ _ _ h' _ => rw [hcl] at h'; cases h'
  | closeWait | lostClosing => exact ⟨rfl, by split <;> simp⟩
  | skip | mute | readPop | readWait | tick | closeNow | accept | refuse | lostSleep => exact ⟨rfl, by simp⟩

theorem Call.wanted {cfg : Cfg} {s : State} {e : Ev} {w : List Bytes} {b : Bytes} (h : Call cfg s e w b) :
    w = wanted s.subs e := by
  cases h with
  | sub ch h => exact (if_neg h).symm
  | unsub | pub => rfl

theorem Step.subs {cfg : Cfg} {s s' : State} {e : Ev} {o : List Out} (hs : Step cfg s e s' o) :
    s'.subs = wanted s.subs e := by
  cases hs with
  | skip _ h => exact h.symm
  | call hc _ => rw [(eff_write _ _).same.subs]; exact hc.wanted
  | mute hc _ => exact hc.wanted
  | data b c c' L hc hg hcl hL hc' => exact (data_eff hc hL hc' _ _).same.subs
  | _ => rfl

theorem step_subs (cfg : Cfg) (s : State) (e : Ev) : (step cfg s e).1.subs = wanted s.subs e := by
  obtain ⟨_, _, _, hk, hs, _⟩ := step_step cfg s e
  rw [hs.subs, hk.subs]
  rfl

/-- the wanted set as a function of the application calls alone: subscribed and not since unsubscribed, whatever
    the connection state was at the time of each call -/
def wantedOf : List Ev → List Bytes
  | [] => []
  | es => es.foldl (fun w e => match e with
      | .sub ch => if ch ∈ w then w else w ++ [ch]
      | .unsub ch => w.erase ch
      | _ => w) []

theorem wantedOf_eq (es : List Ev) : wantedOf es = es.foldl wanted [] := by
  cases es <;> rfl

theorem subs_eq_wantedOf (cfg : Cfg) (es : List Ev) : (run cfg es).1.subs = wantedOf es :=
  (run_fold (step cfg) State.subs wanted (step_subs cfg) es _).trans (wantedOf_eq es).symm

theorem wanted_nodup {w : List Bytes} (e : Ev) (h : w.Nodup) : (wanted w e).Nodup := by
  cases e with
  | sub ch =>
    show (if ch ∈ w then w else w ++ [ch]).Nodup
    split
    · exact h
    · rename_i hm
      exact List.nodup_append.mpr ⟨h, by simp, fun a ha b hb hab => hm (by simp at hb; rw [← hb, ← hab]; exact ha)⟩
  | unsub ch => exact h.erase _
  | _ => exact h

theorem subs_nodup (cfg : Cfg) (es : List Ev) : (run cfg es).1.subs.Nodup :=
  run_invariant (step cfg) (I := fun s => s.subs.Nodup) (fun s e h => by rw [step_subs]; exact wanted_nodup e h) es _
    List.nodup_nil

end Hpfeeds.AioClient
