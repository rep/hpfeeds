/-
  The events as rules: `Step cfg s e s' o` names the branches of `stepK`, the ones in which nothing happens merged
  into one; a property of one event is proved by cases on the rules.
-/
import Hpfeeds.Lemmas.Aio.Eff
import Hpfeeds.Lemmas.Run
namespace Hpfeeds.AioClient
open Hpfeeds Extracted

def wanted (w : List Bytes) : Ev → List Bytes
  | .sub ch => if ch ∈ w then w else w ++ [ch]
  | .unsub ch => w.erase ch
  | _ => w

/-- an application call that sends a frame: the wanted set it leaves, and the frame -/
inductive Call (cfg : Cfg) (s : State) : Ev → List Bytes → Bytes → Prop
  | sub (ch : Bytes) (h : ch ∉ s.subs) : Call cfg s (.sub ch) (s.subs ++ [ch]) (subFrame cfg ch)
  | unsub (ch : Bytes) (h : ch ∈ s.subs) : Call cfg s (.unsub ch) (s.subs.erase ch) (unsubFrame cfg ch)
  | pub (ch p : Bytes) : Call cfg s (.pub ch p) s.subs (pubFrame cfg ch p)

/-- The rules are sound, not complete: `skip` admits "nothing happens" for any event that leaves the wanted set alone
    (its hypothesis is what `Step.subs` needs), `tick` lets time pass also under a timer that is due, and `start` keeps
    only the guard the event shares with `kick` (`step_step`).  So `Step` serves invariants; what an event does under a
    known guard is stated as equations of `step` (Lemmas/Aio/Reconnect). -/
inductive Step (cfg : Cfg) (s : State) : Ev → State → List Out → Prop
  | skip (e : Ev) (h : wanted s.subs e = s.subs) : Step cfg s e s []
  | start (ht : s.task = .notStarted) :
      Step cfg s .start { s with task := .connecting, attempts := s.attempts + 1 } [.attempt]
  | call {e : Ev} {w : List Bytes} {b : Bytes} (h : Call cfg s e w b) (hu : usable { s with subs := w } = true) :
      Step cfg s e (write { s with subs := w } b).1 (write { s with subs := w } b).2
  | mute {e : Ev} {w : List Bytes} {b : Bytes} (h : Call cfg s e w b) (hu : ¬usable { s with subs := w } = true) :
      Step cfg s e { s with subs := w } []
  | readPop (m : Message) (q : List Message) (hq : s.queue = m :: q) :
      Step cfg s .read { s with queue := q, handedLog := s.handedLog ++ [m] } [.handed m]
  | readWait (hq : s.queue = []) : Step cfg s .read { s with readers := s.readers + 1 } []
  | closeNow (hcc : s.closeCalled = false) (hc : ∀ c, s.conn = some c → c.gone = true) :
      Step cfg s .close { s with closing := true, closeCalled := true, task := .done } [.closeDone]
  | closeWait (c : Conn) (hcc : s.closeCalled = false) (hc : s.conn = some c) (hg : c.gone = false) :
      Step cfg s .close
        { s with closing := true, closeCalled := true, closeWait := true, conn := some { c with closing := true } }
        (if c.closing then [] else [.closeT c.k])
  | accept (ht : s.task = .connecting) :
      Step cfg s .accept { s with task := .waiting, nconn := s.nconn + 1, conn := some { k := s.nconn + 1 } } []
  | refuse (ht : s.task = .connecting) :
      Step cfg s .refuse { s with task := .sleeping (s.now + cfg.retryDelay) } []
  | tick (ms : Nat) : Step cfg s (.advance ms) { s with now := s.now + ms } []
  | due (ms t : Nat) (ht : s.task = .sleeping t) (hd : t ≤ s.now + ms) :
      Step cfg s (.advance ms) { s with now := s.now + ms, task := .connecting, attempts := s.attempts + 1 } [.attempt]
  | data (b : Bytes) (c c' : Conn) (L : State × List Out × Bytes × Ctl) (hc : s.conn = some c) (hg : c.gone = false)
      (hcl : c.closing = false)
      (hL : loop cfg { s with conn := some { c with inbound := c.inbound ++ b } } (c.buf ++ b) = L)
      (hc' : L.1.conn = some c') :
      Step cfg s (.data b)
        { L.1 with conn := some { c' with buf := L.2.2.1, closing := c'.closing || (L.2.2.2 == .crash) } }
        (L.2.1 ++ if L.2.2.2 = .crash then [.crash] else [])
  | lostClosing (c : Conn) (hc : s.conn = some c) (hg : c.gone = false) (hcl : s.closing = true) :
      Step cfg s .lost
        { s with conn := some { c with gone := true, closing := true }, task := .done, closeWait := false }
        (if s.closeWait then [.closeDone] else [])
  | lostRetry (c : Conn) (hc : s.conn = some c) (hg : c.gone = false) (hcl : s.closing = false)
      (hd : cfg.lossDelay = 0) :
      Step cfg s .lost { s with conn := none, task := .connecting, attempts := s.attempts + 1 } [.attempt]
  | lostSleep (c : Conn) (hc : s.conn = some c) (hg : c.gone = false) (hcl : s.closing = false)
      (hd : cfg.lossDelay ≠ 0) :
      Step cfg s .lost { s with conn := none, task := .sleeping (s.now + cfg.lossDelay) } []

theorem stepK_step (cfg : Cfg) (s : State) (pre : List Out) (e : Ev) :
    ∃ o, Step cfg s e (stepK cfg s pre e).1 o ∧ (stepK cfg s pre e).2 = pre ++ o := by
  -- the branches of `stepK` from top to bottom: idle 1, start 2–3, sub 4–6, unsub 7–9, pub 10–11, read 12–13,
  -- close 14–17, accept 18–19, refuse 20–21, advance 22–24, data 25–27, lost 28–32; those not named do nothing
  fun_cases stepK cfg s pre e
  case case2 h => exact ⟨_, .start h.1, rfl⟩
  case case4 ch h => exact ⟨[], .skip _ (if_pos h), by simp⟩
  case case5 ch h s1 hu r => exact ⟨_, .call (.sub ch h) hu, rfl⟩
  case case6 ch h s1 hu => exact ⟨[], .mute (.sub ch h) hu, by simp⟩
  case case7 ch h s1 hu r => exact ⟨_, .call (.unsub ch h) hu, rfl⟩
  case case8 ch h s1 hu => exact ⟨[], .mute (.unsub ch h) hu, by simp⟩
  case case9 ch h => exact ⟨[], .skip _ (List.erase_of_not_mem h), by simp⟩
  case case10 ch p hu r => exact ⟨_, .call (.pub ch p) hu, rfl⟩
  case case12 m q hq => exact ⟨_, .readPop m q hq, rfl⟩
  case case13 hq => exact ⟨[], .readWait hq, by simp⟩
  case case15 hcc s1 c hc hg =>
    exact ⟨_, .closeNow (Bool.of_not_eq_true hcc) (fun c' hc' => by rw [show s.conn = some c from hc] at hc'; cases hc'; exact hg), rfl⟩
  case case16 hcc s1 c hc hg r =>
    simp only [r, closeT_some hc]
    exact ⟨_, .closeWait c (Bool.of_not_eq_true hcc) hc (Bool.of_not_eq_true hg), rfl⟩
  case case17 hcc s1 hc =>
    exact ⟨_, .closeNow (Bool.of_not_eq_true hcc) (fun c' hc' => by rw [show s.conn = none from hc] at hc'; cases hc'), rfl⟩
  case case18 ht => exact ⟨[], .accept ht, by simp⟩
  case case20 ht => exact ⟨[], .refuse ht, by simp⟩
  case case22 ms s1 t ht hd => exact ⟨_, .due ms t ht hd, rfl⟩
  case case23 ms s1 t ht hd => exact ⟨[], .tick ms, by simp⟩
  case case24 ms s1 ht => exact ⟨[], .tick ms, by simp⟩
  case case27 b c hc hgc s1 r sr s2 =>
    -- frame handling keeps the connection, so the `none` arm behind the loop is dead
    obtain ⟨c', hc', _⟩ := (loop_spec (cfg := cfg) (s := s1) (buf := c.buf ++ b) rfl).1.same.conn_some rfl
    simp only [Bool.or_eq_true, not_or, Bool.not_eq_true] at hgc
    refine ⟨_, ?_, List.append_assoc _ _ _⟩
    simp only [s2, sr, show r.1.conn = some c' from hc']
    exact .data b c c' r hc hgc.1 hgc.2 rfl hc'
  case case30 c hc hg hcl => exact ⟨_, .lostClosing c hc (Bool.of_not_eq_true hg) hcl, rfl⟩
  case case31 c hc hg hcl hd => exact ⟨_, .lostRetry c hc (Bool.of_not_eq_true hg) (Bool.of_not_eq_true hcl) hd, rfl⟩
  case case32 c hc hg hcl hd => exact ⟨[], .lostSleep c hc (Bool.of_not_eq_true hg) (Bool.of_not_eq_true hcl) hd, by simp⟩
  all_goals exact ⟨[], .skip _ rfl, by simp⟩

theorem data_eff {cfg : Cfg} {s : State} {b : Bytes} {c c' : Conn} {L : State × List Out × Bytes × Ctl}
    (hc : s.conn = some c) (hL : loop cfg { s with conn := some { c with inbound := c.inbound ++ b } } (c.buf ++ b) = L)
    (hc' : L.1.conn = some c') (buf : Bytes) (cl : Bool) :
    Eff s { L.1 with conn := some { c' with buf := buf, closing := cl } }
      (L.2.1 ++ if L.2.2.2 = .crash then [.crash] else []) := by
  have he : Eff s { L.1 with conn := some { c' with buf := buf, closing := cl } } L.2.1 := by
    simpa using ((Eff.quiet (c' := { c with inbound := c.inbound ++ b }) hc rfl rfl rfl).trans (loop_spec hL).1).trans
      (.quiet (c' := { c' with buf := buf, closing := cl }) hc' rfl rfl rfl)
  split
  · exact he.crash
  · simpa using he

theorem kick_of_started {cfg : Cfg} {s : State} (h : s.task ≠ .notStarted) : kick cfg s = (s, []) :=
  if_neg fun h' => h h'.2

theorem step_of_started {cfg : Cfg} {s : State} (e : Ev) (h : s.task ≠ .notStarted) :
    step cfg s e = stepK cfg s [] e := by
  unfold step; rw [kick_of_started h]

theorem kick_started (cfg : Cfg) (s : State) (ha : cfg.autoStart = true) : (kick cfg s).1.task ≠ .notStarted := by
  unfold kick; split
  · nofun
  · rename_i h; exact fun h' => h ⟨ha, h'⟩

theorem step_step (cfg : Cfg) (s : State) (e : Ev) :
    ∃ s0 o0 o, Step cfg s .start s0 o0 ∧ Step cfg s0 e (step cfg s e).1 o ∧ (step cfg s e).2 = o0 ++ o := by
  have ⟨o, h, ho⟩ := stepK_step cfg (kick cfg s).1 (kick cfg s).2 e
  refine ⟨_, _, o, ?_, h, ho⟩
  unfold kick; split
  · exact .start (And.right ‹_›)
  · exact .skip _ rfl

theorem run_closed {cfg : Cfg} {P : State × List Out → Prop}
    (hP : ∀ {s s' e outs o}, Step cfg s e s' o → P (s, outs) → P (s', outs ++ o)) (h0 : P ({}, [])) (es : List Ev) :
    P (run cfg es) :=
  run_induction (step cfg) (fun acc e h => by
    obtain ⟨_, _, _, hk, hs, ho⟩ := step_step cfg acc.1 e
    rw [ho, ← List.append_assoc]
    exact hP hs (hP hk h)) es _ h0

end Hpfeeds.AioClient
