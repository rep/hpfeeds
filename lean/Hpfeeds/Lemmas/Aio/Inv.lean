import Hpfeeds.Lemmas.Aio.Task
namespace Hpfeeds.AioClient
open Hpfeeds Extracted

structure ConnOK (cfg : Cfg) (c : Conn) : Prop where
  quiet : c.ready = false → c.sent = [] ∧ c.handshake = none
  hs : ∀ rand wanted, c.handshake = some (rand, wanted) →
    (∃ later, c.sent = authFrame cfg rand :: wanted.map (subFrame cfg) ++ later) ∧
    (∃ f ∈ c.processed, ∃ n, read f = some (.ok (.info n rand)))
  rdy : c.ready = true → c.handshake.isSome = true

def CInv (cfg : Cfg) (s : State) : Prop := ∀ c, s.conn = some c → ConnOK cfg c
def Alive (s : State) : Prop := ∀ c, s.conn = some c → c.gone = false

theorem connOK_fresh (cfg : Cfg) (k : Nat) : ConnOK cfg { k := k } :=
  ⟨fun _ => ⟨rfl, rfl⟩, nofun, nofun⟩

theorem ConnOK.congr {cfg : Cfg} {c c' : Conn} (h : ConnOK cfg c) (e1 : c'.ready = c.ready) (e2 : c'.sent = c.sent)
    (e3 : c'.handshake = c.handshake) (e4 : ∀ f ∈ c.processed, f ∈ c'.processed) : ConnOK cfg c' := by
  refine ⟨by rw [e1, e2, e3]; exact h.quiet, fun rand wanted hh => ?_, by rw [e1, e3]; exact h.rdy⟩
  obtain ⟨hl, f, hf, hn⟩ := h.hs rand wanted (e3 ▸ hh)
  exact ⟨e2 ▸ hl, f, e4 f hf, hn⟩

theorem connOK_append {cfg : Cfg} {c : Conn} (b : Bytes) (hr : c.ready = true) (h : ConnOK cfg c) :
    ConnOK cfg { c with sent := c.sent ++ [b] } := by
  refine ⟨fun h' => (by rw [hr] at h'; cases h'), fun rand wanted hh => ?_, h.rdy⟩
  obtain ⟨⟨later, hl⟩, hf⟩ := h.hs rand wanted hh
  exact ⟨⟨later ++ [b], by simp only [hl]; simp⟩, hf⟩

theorem connOK_info {cfg : Cfg} {c : Conn} {f : Frame} {n rand : Bytes} (wanted : List Bytes) (h : ConnOK cfg c)
    (hf : f ∈ c.processed) (hrd : read f = some (.ok (.info n rand))) :
    ConnOK cfg { c with
      ready := true
      sent := c.sent ++ authFrame cfg rand :: wanted.map (subFrame cfg)
      handshake := if c.ready then c.handshake else some (rand, wanted) } := by
  cases hr : c.ready with
  | true =>
    refine ⟨nofun, fun rand' wanted' hh => ?_, fun _ => h.rdy hr⟩
    obtain ⟨⟨later, hl⟩, hfr⟩ := h.hs rand' wanted' hh
    exact ⟨⟨later ++ authFrame cfg rand :: wanted.map (subFrame cfg), by simp only [hl]; simp⟩, hfr⟩
  | false =>
    refine ⟨nofun, fun rand' wanted' hh => ?_, fun _ => rfl⟩
    cases hh
    exact ⟨⟨[], by simp [(h.quiet hr).1]⟩, f, hf, n, hrd⟩

theorem cinv_write_ready {cfg : Cfg} {s : State} (b : Bytes) (hu : usable s = true) (ha : Alive s)
    (h : CInv cfg s) : CInv cfg (write s b).1 := by
  intro c' hc'
  cases hc : s.conn with
  | none => rw [write_none b hc, hc] at hc'; cases hc'
  | some c =>
    rw [write_live b hc (ha c hc)] at hc'; cases hc'
    exact connOK_append b (by simpa [usable, hc] using hu) (h c hc)

/-- the invariant of a connection in front of the bytes `buf` that are not decoded yet -/
structure ConnInv (cfg : Cfg) (c : Conn) (buf : Bytes) : Prop where
  ok : ConnOK cfg c
  bytes : c.inbound = c.processed.flatMap enc ++ buf
  wf : ∀ f ∈ c.processed, f.WF

theorem ConnInv.congr {cfg : Cfg} {c c' : Conn} {buf : Bytes} (h : ConnInv cfg c buf) (e1 : c'.ready = c.ready)
    (e2 : c'.sent = c.sent) (e3 : c'.handshake = c.handshake) (e4 : c'.processed = c.processed)
    (e5 : c'.inbound = c.inbound) : ConnInv cfg c' buf :=
  ⟨h.ok.congr e1 e2 e3 fun _ hf => e4 ▸ hf, by rw [e4, e5]; exact h.bytes, by rw [e4]; exact h.wf⟩

def LInv (cfg : Cfg) (s : State) (buf : Bytes) : Prop := ∀ c, s.conn = some c → c.gone = false ∧ ConnInv cfg c buf

theorem linv_closeT {cfg : Cfg} (s : State) (buf : Bytes) (h : LInv cfg s buf) : LInv cfg (closeT s).1 buf := by
  intro c' hc'
  cases hc : s.conn with
  | none => rw [closeT_none hc, hc] at hc'; cases hc'
  | some c => rw [closeT_some hc] at hc'; cases hc'; exact ⟨(h c hc).1, (h c hc).2.congr rfl rfl rfl rfl rfl⟩

theorem linv_dispatch {cfg : Cfg} (s : State) (buf : Bytes) (ml : Nat) (op : UInt8) (hh : header buf = .ok ml op)
    (h : LInv cfg s buf) :
    LInv cfg (onFrame cfg (noteFrame s (popFrame buf ml op).1) (popFrame buf ml op).1).1 (popFrame buf ml op).2 := by
  obtain ⟨hwf, hb, _⟩ := header_ok_spec hh
  generalize (popFrame buf ml op).1 = f, (popFrame buf ml op).2 = rest at hwf hb ⊢
  subst hb
  have h1 : ∀ c1, (noteFrame s f).conn = some c1 → (c1.gone = false ∧ ConnInv cfg c1 rest) ∧ f ∈ c1.processed := by
    intro c1 hc1
    cases hc : s.conn with
    | none => simp [noteFrame, hc] at hc1
    | some c =>
      obtain ⟨hg, k⟩ := h c hc
      simp only [noteFrame, hc, Option.map_some, Option.some.injEq] at hc1
      subst hc1
      refine ⟨⟨hg, k.ok.congr rfl rfl rfl fun _ hf => by simp [hf], by simp [k.bytes], fun g hg => ?_⟩, by simp⟩
      rcases List.mem_append.mp hg with hg | hg
      · exact k.wf g hg
      · cases List.mem_singleton.mp hg; exact hwf
  rcases onFrame_cases cfg (noteFrame s f) f with ⟨_, _, e | e | ⟨n, rand, c1, hc1, hrd⟩⟩ | ⟨m, _, e⟩
  · intro c hc; exact (h1 c (e ▸ hc)).1
  · intro c hc; exact linv_closeT _ _ (fun c hc => (h1 c hc).1) c (e ▸ hc)
  · intro c' hc'
    obtain ⟨⟨hg, k⟩, hf⟩ := h1 c1 hc1
    rw [onFrame_info hc1 hg hrd] at hc'
    cases hc'
    exact ⟨hg, connOK_info _ k.ok hf hrd, k.bytes, k.wf⟩
  · intro c hc; rw [e, deliver_conn] at hc; exact (h1 c hc).1

/-- a connection between two events: nothing waits in the buffer that could be decoded -/
def FullInv (cfg : Cfg) (s : State) : Prop :=
  ∀ c, s.conn = some c → ConnInv cfg c c.buf ∧ (c.closing = false → header c.buf = .wait)

-- `nofun` alone is slow here and wherever there is no connection: it takes the `Conn` apart, field by field, first
theorem full_init (cfg : Cfg) : FullInv cfg {} := fun _ => nofun

theorem full_Step {cfg : Cfg} {s s' : State} {e : Ev} {o : List Out} (hs : Step cfg s e s' o) (h : FullInv cfg s) :
    FullInv cfg s' := by
  cases hs with
  | skip | start | mute | readPop | readWait | closeNow | refuse | tick | due => exact h
  | lostRetry | lostSleep => exact fun _ => nofun
  | @call _ w b _ hu =>
    intro c' hc'
    cases hc : s.conn with
    | none => rw [write_none b (by exact hc)] at hc'; exact h c' hc'
    | some c =>
      have k := h c hc
      cases hg : c.gone with
      | true => rw [write_gone b (by exact hc) hg] at hc'; exact h c' hc'
      | false =>
        rw [write_live b (by exact hc) hg] at hc'; cases hc'
        exact ⟨⟨connOK_append b (by simpa [usable, hc] using hu) k.1.ok, k.1.bytes, k.1.wf⟩, k.2⟩
  | closeWait c _ hc _ | lostClosing c hc _ _ =>
    intro c' hc'; cases hc'; exact ⟨(h c hc).1.congr rfl rfl rfl rfl rfl, nofun⟩
  | accept =>
    intro c' hc'; cases hc'
    exact ⟨⟨connOK_fresh cfg _, rfl, nofun⟩, fun _ => by simp [header]⟩
  | data b c c' L hc hg hcl hL hc' =>
    have k := (h c hc).1
    have hI := loop_pres (cfg := cfg) linv_closeT linv_dispatch
      { s with conn := some { c with inbound := c.inbound ++ b } } (c.buf ++ b)
      fun c1 h1 => by cases h1; exact ⟨hg, k.ok.congr rfl rfl rfl fun _ hf => hf, by simp [k.bytes], k.wf⟩
    rw [hL] at hI
    intro c2 hc2; cases hc2
    exact ⟨(hI c' hc').2.congr rfl rfl rfl rfl rfl, (loop_spec hL).2 c' hc'⟩

/-- a `def`, not a structure, so that it holds as it stands of any state with the same five fields -/
def RInv (s : State) : Prop :=
  s.received = s.handedLog ++ s.queue ∧ (s.readers > 0 → s.queue = []) ∧
  s.received = s.allProcessed.filterMap pubOf

theorem rinv_deliver {s : State} (f : Frame) (m : Message) (hp : pubOf f = some m) (h : RInv s) :
    RInv (deliver (noteFrame s f) m).1 := by
  obtain ⟨fifo, idle, recv⟩ := h
  have hr : s.received ++ [m] = (s.allProcessed ++ [f]).filterMap pubOf := by simp [recv, hp]
  unfold deliver
  simp only
  split
  · rename_i hc
    exact ⟨by show s.received ++ [m] = s.handedLog ++ [m] ++ s.queue; rw [fifo, show s.queue = [] from hc.2]; simp,
      fun _ => hc.2, hr⟩
  · rename_i hc
    refine ⟨by show s.received ++ [m] = s.handedLog ++ (s.queue ++ [m]); rw [fifo]; simp, fun hr' => ?_, hr⟩
    exact absurd ⟨hr', idle hr'⟩ hc

theorem rinv_dispatch (cfg : Cfg) (s : State) (f : Frame) (h : RInv s) : RInv (onFrame cfg (noteFrame s f) f).1 := by
  rcases onFrame_cases cfg (noteFrame s f) f with ⟨hp, e, _⟩ | ⟨m, hp, e⟩
  · rw [e]
    exact ⟨h.1, h.2.1, by show s.received = (s.allProcessed ++ [f]).filterMap pubOf; simp [h.2.2, hp]⟩
  · rw [e]; exact rinv_deliver f m hp h

theorem rinv_closeT {s : State} (h : RInv s) : RInv (closeT s).1 := by
  rw [closeT_frame]; exact h

theorem rinv_Step {cfg : Cfg} {s s' : State} {e : Ev} {o : List Out} (hs : Step cfg s e s' o) (h : RInv s) :
    RInv s' := by
  cases hs with
  | call => rw [write_frame]; exact h
  | readPop m q hq =>
    obtain ⟨fifo, idle, recv⟩ := h
    refine ⟨by show s.received = s.handedLog ++ [m] ++ q; rw [fifo, hq]; simp, fun hr => ?_, recv⟩
    rw [idle hr] at hq; cases hq
  | readWait hq => exact ⟨h.1, fun _ => hq, h.2.2⟩
  | data b c c' L _ _ _ hL _ =>
    rw [← hL]; exact loop_pres (I := fun s _ => RInv s) (fun _ _ => rinv_closeT) (fun s _ _ _ _ => rinv_dispatch cfg s _) _ _ h
  | _ => exact h

theorem run_inv (cfg : Cfg) (es : List Ev) :
    FullInv cfg (run cfg es).1 ∧ TInv (run cfg es).1 ∧ RInv (run cfg es).1 :=
  run_closed (P := fun acc => FullInv cfg acc.1 ∧ TInv acc.1 ∧ RInv acc.1)
    (fun hs h => ⟨full_Step hs h.1, tinv_Step hs h.2.1, rinv_Step hs h.2.2⟩) ⟨full_init cfg, tinv_init, rfl, nofun, rfl⟩ es

theorem drained (cfg : Cfg) (es : List Ev) (c : Conn) (hc : (run cfg es).1.conn = some c) (hcl : c.closing = false) :
    drain c.inbound = (c.processed, c.buf, none) := by
  have k := (run_inv cfg es).1 c hc
  rw [k.1.bytes, drain_frames_wait k.1.wf (k.2 hcl)]

end Hpfeeds.AioClient
