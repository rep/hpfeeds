/-
  What a write, a transport close and the handling of inbound frames do is stated as one relation, `Eff`, proved of
  each primitive and carried through the frame loop; what they leave alone, what they append to the ghost fields and
  what they output are read off it.
-/
import Hpfeeds.Lemmas.Aio.Prim
namespace Hpfeeds.AioClient
open Hpfeeds Extracted

def handedOf : Out → Option Message
  | .handed m => some m
  | _ => none

def wroteOn (k : Nat) (outs : List Out) : List Bytes :=
  outs.filterMap fun o => match o with
    | .wrote k' b => if k' = k then some b else none
    | _ => none

theorem wroteOn_append (k : Nat) (a b : List Out) : wroteOn k (a ++ b) = wroteOn k a ++ wroteOn k b := by
  simp [wroteOn, List.filterMap_append]
theorem wroteOn_nil (k : Nat) : wroteOn k [] = [] := rfl

/-- what frame handling cannot change -/
structure Same (s s' : State) : Prop where
  task : s'.task = s.task
  closing : s'.closing = s.closing
  closeWait : s'.closeWait = s.closeWait
  closeCalled : s'.closeCalled = s.closeCalled
  now : s'.now = s.now
  subs : s'.subs = s.subs
  nconn : s'.nconn = s.nconn
  attempts : s'.attempts = s.attempts
  conn : (s'.conn.map fun c => (c.k, c.gone)) = (s.conn.map fun c => (c.k, c.gone))

theorem Same.refl (s : State) : Same s s := ⟨rfl, rfl, rfl, rfl, rfl, rfl, rfl, rfl, rfl⟩
theorem Same.trans {a b c : State} (h1 : Same a b) (h2 : Same b c) : Same a c :=
  ⟨h2.task.trans h1.task, h2.closing.trans h1.closing, h2.closeWait.trans h1.closeWait,
   h2.closeCalled.trans h1.closeCalled, h2.now.trans h1.now, h2.subs.trans h1.subs,
   h2.nconn.trans h1.nconn, h2.attempts.trans h1.attempts, h2.conn.trans h1.conn⟩

theorem Same.conn_some {s s' : State} {c : Conn} (h : Same s s') (hc : s.conn = some c) :
    ∃ c', s'.conn = some c' ∧ c'.k = c.k ∧ c'.gone = c.gone := by
  have ⟨c', hc', e⟩ := Option.map_eq_some_iff.mp (h.conn.trans (congrArg _ hc))
  exact ⟨c', hc', Prod.mk.inj e⟩

/-- `o` are the outputs; the writes are on the connection that is current afterwards, and are what its `sent` gained -/
structure Eff (s s' : State) (o : List Out) : Prop where
  same : Same s s'
  log : s'.handedLog = s.handedLog ++ o.filterMap handedOf
  noatt : Out.attempt ∉ o
  sent : ∀ c', s'.conn = some c' → ∃ c, s.conn = some c ∧ c'.k = c.k ∧ c'.sent = c.sent ++ wroteOn c.k o
  other : ∀ k, (∀ c', s'.conn = some c' → c'.k ≠ k) → wroteOn k o = []

theorem Eff.refl (s : State) : Eff s s [] :=
  ⟨.refl s, by simp, by simp, fun c hc => ⟨c, hc, rfl, by simp [wroteOn]⟩, fun _ _ => rfl⟩

theorem Eff.trans {a b c : State} {o1 o2 : List Out} (h1 : Eff a b o1) (h2 : Eff b c o2) : Eff a c (o1 ++ o2) := by
  refine ⟨h1.same.trans h2.same, by rw [h2.log, h1.log]; simp, by simp [h1.noatt, h2.noatt], fun cc hcc => ?_,
    fun k hk => ?_⟩
  · obtain ⟨cb, hcb, k2, s2⟩ := h2.sent cc hcc
    obtain ⟨ca, hca, k1, s1⟩ := h1.sent cb hcb
    exact ⟨ca, hca, k2.trans k1, by rw [s2, s1, k1, wroteOn_append, List.append_assoc]⟩
  · rw [wroteOn_append, h2.other k hk, h1.other k fun cb hcb => ?_]; rfl
    obtain ⟨cc, hcc, ek, _⟩ := h2.same.conn_some hcb
    rw [← ek]; exact hk cc hcc

theorem Eff.quiet {s : State} {c c' : Conn} (hc : s.conn = some c) (hk : c'.k = c.k) (hg : c'.gone = c.gone)
    (hs : c'.sent = c.sent) : Eff s { s with conn := some c' } [] :=
  ⟨⟨rfl, rfl, rfl, rfl, rfl, rfl, rfl, rfl, by simp [hc, hk, hg]⟩, by simp, by simp,
   fun c0 h0 => by cases h0; exact ⟨c, hc, hk, by simp [hs, wroteOn]⟩, fun _ _ => rfl⟩

theorem Eff.crash {s s' : State} {o : List Out} (h : Eff s s' o) : Eff s s' (o ++ [.crash]) :=
  h.trans ⟨.refl s', by simp [handedOf], by simp, fun c hc => ⟨c, hc, rfl, by simp [wroteOn]⟩, fun _ _ => rfl⟩

theorem eff_write (s : State) (b : Bytes) : Eff s (write s b).1 (write s b).2 := by
  cases hc : s.conn with
  | none => rw [write_none b hc]; exact .refl s
  | some c =>
    cases hg : c.gone with
    | true => rw [write_gone b hc hg]; exact .refl s
    | false =>
      rw [write_live b hc hg]
      exact ⟨⟨rfl, rfl, rfl, rfl, rfl, rfl, rfl, rfl, by simp [hc]⟩, by simp [handedOf], by simp,
        fun c0 h0 => by cases h0; exact ⟨c, hc, rfl, by simp [wroteOn]⟩, fun k hk => by simp [wroteOn, hk _ rfl]⟩

theorem eff_closeT (s : State) : Eff s (closeT s).1 (closeT s).2 := by
  cases hc : s.conn with
  | none => rw [closeT_none hc]; exact .refl s
  | some c =>
    rw [closeT_some hc]
    exact ⟨⟨rfl, rfl, rfl, rfl, rfl, rfl, rfl, rfl, by simp [hc]⟩, by split <;> simp [handedOf], by split <;> simp,
      fun c0 h0 => by cases h0; exact ⟨c, hc, rfl, by split <;> simp [wroteOn]⟩, fun k _ => by split <;> rfl⟩

theorem eff_writeAll (s : State) (bs : List Bytes) : Eff s (writeAll s bs).1 (writeAll s bs).2 := by
  induction bs generalizing s with
  | nil => exact .refl s
  | cons b bs ih => rw [writeAll_cons]; exact (eff_write s b).trans (ih _)

theorem eff_deliver (s : State) (m : Message) : Eff s (deliver s m).1 (deliver s m).2 := by
  unfold deliver
  simp only
  split <;> exact ⟨⟨rfl, rfl, rfl, rfl, rfl, rfl, rfl, rfl, rfl⟩, by simp [handedOf], by simp,
    fun c hc => ⟨c, hc, rfl, by simp [wroteOn]⟩, fun _ _ => rfl⟩

theorem eff_noteFrame (s : State) (f : Frame) : Eff s (noteFrame s f) [] := by
  refine ⟨⟨rfl, rfl, rfl, rfl, rfl, rfl, rfl, rfl, by cases hc : s.conn <;> simp [noteFrame, hc]⟩, by simp [noteFrame],
    by simp, fun c' hc' => ?_, fun _ _ => rfl⟩
  obtain ⟨c, hc, rfl⟩ := Option.map_eq_some_iff.mp hc'
  exact ⟨c, hc, rfl, by simp [wroteOn]⟩

theorem eff_onFrame (cfg : Cfg) (s : State) (f : Frame) : Eff s (onFrame cfg s f).1 (onFrame cfg s f).2.1 := by
  fun_cases onFrame cfg s f
  case case5 n rand c hc again r1 wanted s1 s2 r3 _ =>
    -- OP_INFO with a connection: AUTH, the connection marked ready, one SUBSCRIBE per wanted channel
    obtain ⟨c1, hc1, _⟩ := (eff_write s (authFrame cfg rand)).same.conn_some hc
    have e2 : Eff s1 s2 [] := by
      simp only [s2, show s1.conn = some c1 from hc1]
      exact .quiet hc1 rfl rfl rfl
    simpa using ((eff_write s _).trans e2).trans (eff_writeAll s2 (wanted.map (subFrame cfg)))
  all_goals first | exact .refl s | exact eff_closeT s | exact eff_deliver s _

theorem eff_dispatch (cfg : Cfg) (s : State) (f : Frame) :
    Eff s (onFrame cfg (noteFrame s f) f).1 (onFrame cfg (noteFrame s f) f).2.1 :=
  (eff_noteFrame s f).trans (eff_onFrame cfg _ f)

theorem loop_spec {cfg : Cfg} {s : State} {buf : Bytes} {L : State × List Out × Bytes × Ctl} (hL : loop cfg s buf = L) :
    Eff s L.1 L.2.1 ∧
      ∀ c, L.1.conn = some c → (c.closing || L.2.2.2 == .crash) = false → header L.2.2.1 = .wait := by
  subst hL
  fun_induction loop cfg s buf with
  | case1 s buf h => exact ⟨.refl s, fun _ _ _ => h⟩
  | case2 s buf e h r => exact ⟨eff_closeT s, fun c hc h' => by rw [closeT_closed s c hc] at h'; cases h'⟩
  | case3 s buf ml op h r hr => exact ⟨eff_dispatch cfg s _, fun c _ h' => by simp at h'⟩
  | case4 s buf ml op h r hr t ih => exact ⟨(eff_dispatch cfg s _).trans ih.1, ih.2⟩

theorem loop_pres {cfg : Cfg} {I : State → Bytes → Prop} (hclose : ∀ s buf, I s buf → I (closeT s).1 buf)
    (hdisp : ∀ s buf ml op, header buf = .ok ml op → I s buf →
      I (onFrame cfg (noteFrame s (popFrame buf ml op).1) (popFrame buf ml op).1).1 (popFrame buf ml op).2)
    (s : State) (buf : Bytes) (h : I s buf) : I (loop cfg s buf).1 (loop cfg s buf).2.2.1 := by
  fun_induction loop cfg s buf with
  | case1 => exact h
  | case2 s buf => exact hclose s buf h
  | case3 s buf ml op hh => exact hdisp s buf ml op hh h
  | case4 s buf ml op hh r _ t ih => exact ih (hdisp s buf ml op hh h)

end Hpfeeds.AioClient
