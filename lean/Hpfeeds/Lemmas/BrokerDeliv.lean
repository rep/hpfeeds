/-
  The delivery invariant: the OP_PUBLISH frames in a connection's log are, in order, the accepted publishes that list it
  as a recipient, and every accepted publish went to exactly the connections entitled to it (`AccOK`).  When transports
  may refuse writes the second clause weakens by design to `recips ⊆ entitled` (`AccOKF`: a faulty destination is entitled
  and no recipient); the log clause is kept for EVERY connection.  Both are instances of `DelivW A`, `A` = what holds of
  every accepted publish.
-/
import Hpfeeds.Lemmas.BrokerFanout
import Hpfeeds.Lemmas.BrokerMoves
namespace Hpfeeds.Broker
open Hpfeeds Extracted

def frameOf (a : Accepted) : Frame := pubFrame a.ident a.chan a.payload

def delivered (acc : List Accepted) (c : Nat) : List Frame :=
  acc.filterMap fun a => if c ∈ a.recips then some (frameOf a) else none

structure ConnOK (x : Conn) : Prop where
  atClose : x.closing = true → x.pubsAtClose = some (pubFrames x.out)
  granted : ∀ ch ∈ x.active, ch ∈ x.granted ∨ x.closing = true

structure AccOK (a : Accepted) : Prop where
  nodup : a.recips.Nodup
  exact : ∀ d, d ∈ a.recips ↔ d ∈ a.entitled
  granted : a.grantedOk = true
  ident : a.srcAk = some a.ident
  chan : a.chan ∈ a.srcPubchans

structure DelivW (A : Accepted → Prop) (s : State) : Prop where
  log : ∀ c x, s.conn c = some x → pubFrames x.out = delivered s.accepted c
  conn : ∀ c x, s.conn c = some x → ConnOK x
  acc : ∀ a ∈ s.accepted, A a
  recips_exist : ∀ a ∈ s.accepted, ∀ d ∈ a.recips, (s.conn d).isSome = true

abbrev Deliv (s : State) : Prop := DelivW AccOK s

theorem delivW_init {A : Accepted → Prop} : DelivW A init := by
  constructor <;> simp [init]

theorem pubFrames_append_nonPub (o : List (Nat × Act)) (t : Nat) (a : Act) (h : NonPub a) :
    pubFrames (o ++ [(t, a)]) = pubFrames o := by
  unfold pubFrames
  rw [List.filterMap_append, List.filterMap_cons_none, List.filterMap_nil, List.append_nil]
  cases a with
  | write f => exact if_neg (h f rfl)
  | _ => rfl

theorem pubFrames_append_pub (o : List (Nat × Act)) (t : Nat) (i ch p : Bytes) :
    pubFrames (o ++ [(t, .write (pubFrame i ch p))]) = pubFrames o ++ [pubFrame i ch p] := by
  unfold pubFrames
  rw [List.filterMap_append]
  simp [pubFrame_op]

theorem OwnStep.pubFrames {H : Bytes → Bytes} {t : Nat} {x y : Conn} (h : OwnStep H t x y) :
    pubFrames y.out = pubFrames x.out := by
  cases h with
  | transport q =>
    cases q with
    | log a hp => exact pubFrames_append_nonPub _ _ a hp
    | close => rfl
    | idle => rfl
    | arm => exact pubFrames_append_nonPub _ _ _ nofun
    | disarm a ha => exact pubFrames_append_nonPub _ _ a (by rcases ha with rfl | rfl <;> exact nofun)
  | _ => rfl

theorem RecStep.connOK {H : Bytes → Bytes} {t : Nat} {x y : Conn} (h : RecStep H t x y) (k : ConnOK x) :
    ConnOK y := by
  cases h with
  | pub f _ hc => exact ⟨fun h => absurd (hc ▸ h) nofun, k.granted⟩
  | own o =>
    have hp := o.pubFrames
    cases o with
    | transport q =>
      cases q with
      | close => exact ⟨fun _ => rfl, fun _ _ => Or.inr rfl⟩
      | _ => exact ⟨fun hc => by rw [hp]; exact k.atClose hc, k.granted⟩
    | sub ch ok _ _ _ hcl =>
      refine ⟨k.atClose, fun ch' hch' => ?_⟩
      rcases mem_addNew.mp hch' with h1 | rfl
      · exact (k.granted ch' h1).imp_left fun h2 => by simp only; split <;> simp [h2]
      · cases ok with
        | false => exact Or.inr (hcl rfl)
        | true => left; by_cases hg : ch' ∈ x.granted <;> simp [hg]
    | unsub => exact ⟨k.atClose, fun ch' h' => k.granted ch' (List.mem_of_mem_erase h')⟩
    | forget => exact ⟨k.atClose, nofun⟩
    | _ => exact ⟨k.atClose, k.granted⟩

theorem connOK_fresh (cfg : Cfg) (t : Nat) (n : Bytes) : ConnOK (fresh cfg t n) := ⟨nofun, nofun⟩

theorem deliv_own {A : Accepted → Prop} {cfg : Cfg} {c : Nat} {s s' : State} (m : Own cfg c s s') (h : DelivW A s) :
    DelivW A s' := by
  refine ⟨?_, m.toMoves.allRec (fun _ _ _ => RecStep.connOK) (fun _ n _ => connOK_fresh cfg _ n) h.conn,
    m.accepted ▸ h.acc, fun a ha d hd => ?_⟩
  · -- the accepted log is the same and no record is written an OP_PUBLISH frame
    rw [m.accepted]
    refine m.moves.allRec (I := fun d x => pubFrames x.out = delivered s.accepted d)
      (fun _ _ _ o e => o.pubFrames.trans e) (fun d n hd => ?_) h.log
    -- nobody has ever delivered to a connection that does not exist yet
    have : delivered s.accepted d = [] := by
      unfold delivered
      rw [List.filterMap_eq_nil_iff]
      intro a ha
      have : d ∉ a.recips := fun hm => by have := h.recips_exist a ha d hm; rw [hd] at this; cases this
      simp [this]
    rw [this]; simp [fresh, pubFrames, OP_INFO, OP_PUBLISH]
  · rw [m.accepted] at ha
    cases hy : s.conn d with
    | none => have := h.recips_exist a ha d hd; rw [hy] at this; cases this
    | some y => obtain ⟨y', hy', _⟩ := m.moves.2.1 d y hy; rw [hy']; rfl

/-- (any configuration will do: a transport-side step neither hashes nor creates a record) -/
theorem deliv_errorClose {A : Accepted → Prop} {s : State} (c : Nat) (h : DelivW A s) : DelivW A (errorClose s c) :=
  deliv_own (own_tupd (cfg := ⟨[], .async, id⟩) (tupd_errorClose s c)) h

def recipsOf (s : State) (ch : Bytes) : List Nat :=
  (s.subs ch).eraseDups.filter fun d => match s.conn d with | some y => !y.closing | none => false

def recipsOfF (F : Nat → Bool) (s : State) (ch : Bytes) : List Nat :=
  (s.subs ch).eraseDups.filter fun d => match s.conn d with | some y => !y.closing && !F d | none => false

theorem mem_recipsOfF {F : Nat → Bool} {s : State} {ch : Bytes} {d : Nat} (hr : Reg s) :
    d ∈ recipsOfF F s ch ↔ (∃ y, s.conn d = some y ∧ ch ∈ y.active ∧ y.closing = false) ∧ F d = false := by
  unfold recipsOfF
  rw [List.mem_filter, List.mem_eraseDups, hr.sub_iff]
  constructor
  · rintro ⟨⟨y, hy, hm⟩, hc⟩
    rw [hy] at hc
    simp only [Bool.and_eq_true, Bool.not_eq_eq_eq_not, Bool.not_true] at hc
    exact ⟨⟨y, hy, hm, hc.1⟩, hc.2⟩
  · rintro ⟨⟨y, hy, hm, hc⟩, hF⟩
    exact ⟨⟨y, hy, hm⟩, by rw [hy]; simp [hc, hF]⟩

theorem mem_recipsOf {s : State} {ch : Bytes} {d : Nat} (hr : Reg s) :
    d ∈ recipsOf s ch ↔ ∃ y, s.conn d = some y ∧ ch ∈ y.active ∧ y.closing = false := by
  have : recipsOf s ch = recipsOfF (fun _ => false) s ch := by simp [recipsOf, recipsOfF]
  rw [this, mem_recipsOfF hr]; simp

theorem publish_accepted (s : State) (c : Nat) (x : Conn) (i ch p : Bytes) :
    ∃ a, (publish s c x i ch p).accepted = s.accepted ++ [a] ∧ a.recips = recipsOf s ch :=
  ⟨_, by rw [← foldl_deliverF_accepted (fun _ => false) (pubFrame i ch p) _ s, deliverF_none]; rfl, rfl⟩

theorem mem_entitled {s : State} {ch : Bytes} {d : Nat} (hr : Reg s) :
    d ∈ s.ids.filter (isOpenSub s ch) ↔ ∃ y, s.conn d = some y ∧ ch ∈ y.active ∧ y.closing = false := by
  rw [List.mem_filter, hr.ids_iff]
  unfold isOpenSub
  constructor
  · rintro ⟨hs, ho⟩
    cases hy : s.conn d with
    | none => rw [hy] at hs; cases hs
    | some y => rw [hy] at ho; simp at ho; exact ⟨y, rfl, ho.1, ho.2⟩
  · rintro ⟨y, hy, hm, hc⟩
    rw [hy]; simp [hm, hc]

theorem delivered_append (acc : List Accepted) (a : Accepted) (c : Nat) :
    delivered (acc ++ [a]) c = delivered acc c ++ (if c ∈ a.recips then [frameOf a] else []) := by
  unfold delivered
  rw [List.filterMap_append]
  congr 1
  by_cases h : c ∈ a.recips <;> simp [h]

theorem foldl_deliverF_pubFrames (F : Nat → Bool) (i ch p : Bytes) (l : List Nat) (hnd : l.Nodup) (s : State) (d : Nat) :
    ((l.foldl (deliverF F (pubFrame i ch p)) s).conn d).map (fun y => pubFrames y.out) =
      (s.conn d).map fun y => pubFrames y.out ++
        if d ∈ l ∧ y.closing = false ∧ F d = false then [pubFrame i ch p] else [] := by
  obtain ⟨h1, h2⟩ := foldl_deliverF_spec F (pubFrame i ch p) l hnd s
  cases hy : s.conn d with
  | none => rw [h2 d hy]; rfl
  | some y =>
    obtain ⟨y', hy', r | ⟨hd, hc, hF, rfl⟩⟩ := h1 d y hy <;> rw [hy']
    · rw [Option.map_some, Option.map_some, r.out]
      split
      · rw [pubFrames_append_pub]
      · simp
    · rw [Option.map_some, Option.map_some, if_neg (by simp [hF]), List.append_nil]
      exact congrArg some (pubFrames_append_nonPub _ _ .close nofun)

/-- `hak`, `hch`: what `on_publish` has checked where it calls `Server.publish`; `hA`: all that is known of the new entry -/
theorem delivW_publishF (F : Nat → Bool) {A : Accepted → Prop}
    (hA : ∀ a : Accepted, a.recips.Nodup → (∀ d, d ∈ a.recips ↔ d ∈ a.entitled ∧ F d = false) → a.grantedOk = true →
      a.srcAk = some a.ident → a.chan ∈ a.srcPubchans → A a)
    {s : State} (c : Nat) (x : Conn) (i ch p : Bytes)
    (hak : x.ak = some i) (hch : ch ∈ x.pubchans) (hr : Reg s) (h : DelivW A s) :
    DelivW A (publishF F s c x i ch p) := by
  have fp := foldl_deliverF_pubFrames F i ch p (s.subs ch).eraseDups (nodup_eraseDups _) s
  have fa := foldl_deliverF_accepted F (pubFrame i ch p) (s.subs ch).eraseDups s
  -- (any configuration will do: `ConnOK` does not mention it)
  have hconn := (moves_publishF (cfg := ⟨[], .async, id⟩) (s := s) (c := c) F x i ch p).allRec (I := fun _ => ConnOK)
    (fun _ _ _ => RecStep.connOK) (fun _ n _ => connOK_fresh _ _ n) h.conn
  unfold publishF at hconn ⊢
  simp only at hconn ⊢
  generalize (s.subs ch).eraseDups.foldl (deliverF F (pubFrame i ch p)) s = s' at fa fp hconn
  have hex : ∀ d, (s.conn d).isSome = true → (s'.conn d).isSome = true := fun d hd => by
    have := congrArg Option.isSome (fp d); rw [Option.isSome_map, Option.isSome_map] at this; rwa [this]
  have hnew {a b : Accepted} (ha : a ∈ s'.accepted ++ [b]) : a ∈ s.accepted ∨ a = b :=
    (List.mem_append.mp (fa ▸ ha)).imp_right List.mem_singleton.mp
  refine ⟨fun d y' hy' => ?_, hconn, fun a ha => ?_, fun a ha d hd => ?_⟩
  · simp only at hy' ⊢
    have e := fp d
    rw [hy'] at e
    obtain ⟨y, hy, e⟩ := Option.map_eq_some_iff.mp e.symm
    rw [fa, delivered_append, ← h.log d y hy]
    refine e.symm.trans ?_
    show _ = _ ++ (if d ∈ recipsOfF F s ch then [pubFrame i ch p] else [])
    simp [recipsOfF, hy]
  · rcases hnew ha with ha | rfl
    · exact h.acc a ha
    · refine hA _ ((nodup_eraseDups _).filter _) (fun d => ?_) ?_ hak hch
      · show d ∈ recipsOfF F s ch ↔ d ∈ s.ids.filter (isOpenSub s ch) ∧ F d = false
        rw [mem_recipsOfF hr, mem_entitled hr]
      · show (recipsOfF F s ch).all _ = true
        rw [List.all_eq_true]
        intro d hd
        obtain ⟨⟨y, hy, hya, hyc⟩, _⟩ := (mem_recipsOfF hr).mp hd
        rw [hy]
        rcases (h.conn d y hy).granted ch hya with hg | hg
        · simp [hg]
        · rw [hyc] at hg; cases hg
  · refine hex d ?_
    rcases hnew ha with ha | rfl
    · exact h.recips_exist a ha d hd
    · obtain ⟨⟨y, hy, _⟩, _⟩ := (mem_recipsOfF hr).mp (show d ∈ recipsOfF F s ch from hd)
      rw [hy]; rfl

theorem deliv_publish {s : State} (c : Nat) (x : Conn) (i ch p : Bytes)
    (hak : x.ak = some i) (hch : ch ∈ x.pubchans) (hr : Reg s) (h : Deliv s) :
    Deliv (publish s c x i ch p) :=
  publishF_none ▸ delivW_publishF (fun _ => false)
    (fun _ h1 h2 h3 h4 h5 => ⟨h1, fun d => by simpa using h2 d, h3, h4, h5⟩) c x i ch p hak hch hr h

theorem regDelivWPres {A : Accepted → Prop} (cfg : Cfg)
    (hpub : ∀ c {s : State} x i ch p, x.ak = some i → ch ∈ x.pubchans → Reg s → DelivW A s →
      DelivW A (publish s c x i ch p)) : Pres cfg (fun s => Reg s ∧ DelivW A s) where
  prim := fun c => presAt_ofOwn (fun _ _ m h => ⟨m.reg h.1, deliv_own m h.2⟩)
    fun _ x i ch p _ hak hch _ h => ⟨reg_publish c x i ch p h.1, hpub c x i ch p hak hch h.1 h.2⟩
  tick := fun s _ h => ⟨reg_congr (s := s) rfl rfl rfl h.1, ⟨h.2.log, h.2.conn, h.2.acc, h.2.recips_exist⟩⟩

theorem regDelivPres (cfg : Cfg) : Pres cfg (fun s => Reg s ∧ Deliv s) :=
  regDelivWPres cfg fun c _ x i ch p => deliv_publish c x i ch p

theorem deliv_runS (cfg : Cfg) (es : List (Store × Event)) : Deliv (runS cfg es) :=
  (pres_runS cfg (fun st => regDelivPres (cfg.withStore st)) ⟨reg_init, delivW_init⟩ es).2

theorem deliv_run (cfg : Cfg) (es : List Event) : Deliv (run cfg es) :=
  run_eq_runS cfg es ▸ deliv_runS cfg _

structure AccOKF (a : Accepted) : Prop where
  nodup : a.recips.Nodup
  sub : ∀ d, d ∈ a.recips → d ∈ a.entitled
  granted : a.grantedOk = true
  ident : a.srcAk = some a.ident
  chan : a.chan ∈ a.srcPubchans

theorem AccOK.toF {a : Accepted} (h : AccOK a) : AccOKF a :=
  ⟨h.nodup, fun d hd => (h.exact d).mp hd, h.granted, h.ident, h.chan⟩

abbrev DelivF (s : State) : Prop := DelivW AccOKF s

theorem deliv_publishF (F : Nat → Bool) {s : State} (c : Nat) (x : Conn) (i ch p : Bytes)
    (hak : x.ak = some i) (hch : ch ∈ x.pubchans) (hr : Reg s) (h : DelivF s) :
    DelivF (publishF F s c x i ch p) :=
  delivW_publishF F (fun _ h1 h2 h3 h4 h5 => ⟨h1, fun d hd => ((h2 d).mp hd).1, h3, h4, h5⟩) c x i ch p hak hch hr h

theorem regDelivFPres (cfg : Cfg) : Pres cfg (fun s => Reg s ∧ DelivF s) :=
  regDelivWPres cfg fun c _ x i ch p hak hch hr h =>
    publishF_none ▸ deliv_publishF (fun _ => false) c x i ch p hak hch hr h

theorem delivF_runF (cfg : Cfg) (es : List (Store × List Nat × Event)) : DelivF (runF cfg es) :=
  (pres_runF cfg (fun st => regDelivFPres (cfg.withStore st))
    (fun F c _ x i ch p _ hak hch _ h => ⟨reg_publishF F c x i ch p h.1, deliv_publishF F c x i ch p hak hch h.1 h.2⟩)
    ⟨reg_init, delivW_init⟩ es).2

end Hpfeeds.Broker
