/-
  Blocking Client: what `step` is at a known control point, as equations, and the event sequences computed from
  them: `_subscribe` with every sendall succeeding (`subscribes`), and loss, accept, OP_INFO, OP_AUTH sent: back at
  run()'s loop top (`back_at_loop_top`); C13 (i) composes the two.
-/
import Hpfeeds.Lemmas.BlkClient
namespace Hpfeeds.BlkClient
open Hpfeeds Extracted

/-- `_subscribe` for the channels `chs`, then (unless a sendall blocks) back in the caller -/
def subThen (cfg : Cfg) (s : State) (k : SubK) (chs : List Bytes) : State × List Out :=
  if (subLoop s k chs).2 = true then afterSub cfg (subLoop s k chs).1 k else ((subLoop s k chs).1, [])

section
variable (cfg : Cfg) {s : State}

/-- with the pc written out, `step`'s match on it computes: the equations below are `rfl` after this rewrite -/
theorem eq_pc {p : Pc} (hp : s.pc = p) : s = { s with pc := p } := by rw [← hp]

theorem step_idle_sub (hp : s.pc = .idle) (ch : Bytes) :
    step cfg s (.sub ch) = ({ s with subs := if ch ∈ s.subs then s.subs else s.subs ++ [ch] }, []) := by
  rw [eq_pc hp]; rfl

theorem step_connOk {i : Nat} {w : Who} (hp : s.pc = .connecting i w) : step cfg s .connOk =
    ({ s with connected := true, sockUp := true, ubuf := [], fed := [], popped := [], pc := .authRecv w }, []) := by
  rw [eq_pc hp]; rfl

theorem step_refused {i : Nat} {w : Who} (hp : s.pc = .connecting i w) : step cfg s .connRefused =
    if i + 1 < cfg.naddr then newSocket s (i + 1) w
    else if s.connected then retry { s with ubuf := [], fed := [], popped := [] } w else retry s w := by
  rw [eq_pc hp]; rfl

theorem step_auth_data {w : Who} (hp : s.pc = .authRecv w) (b : Bytes) :
    step cfg s (.data b) = if b = [] then retry s w else doAuth cfg s w b := by
  rw [eq_pc hp]; rfl

theorem step_authed {w : Who} {rand : Bytes} (hp : s.pc = .authSend w rand) : step cfg s .sendOk =
    ((resume cfg { s with sent := s.sent ++ [authFrame cfg rand], nonce := some rand, pc := .idle } w).1,
      .wrote s.nsock (authFrame cfg rand) ::
        (resume cfg { s with sent := s.sent ++ [authFrame cfg rand], nonce := some rand, pc := .idle } w).2) := by
  rw [eq_pc hp]; rfl

theorem step_subSend_ok {ch : Bytes} {rest : List Bytes} {k : SubK} (hp : s.pc = .subSend ch rest k) :
    step cfg s .sendOk = ((subThen cfg { s with sent := s.sent ++ [subFrame cfg ch] } k rest).1,
      .wrote s.nsock (subFrame cfg ch) :: (subThen cfg { s with sent := s.sent ++ [subFrame cfg ch] } k rest).2) := by
  rw [eq_pc hp]
  show (if _ then _ else _) = _
  unfold subThen
  split <;> rfl

theorem step_recv_eof (hp : s.pc = .runRecv) : step cfg s .eof = afterInner { s with connected := false } := by
  rw [eq_pc hp]; rfl

theorem step_recv_sockErr (hp : s.pc = .runRecv) : step cfg s .sockErr = afterInner { s with connected := false } := by
  rw [eq_pc hp]; rfl

theorem step_recv_data (hp : s.pc = .runRecv) (b : Bytes) : step cfg s (.data b) =
    if b = [] then afterInner { s with connected := false }
    else afterFrames cfg (frameLoop cfg { s with ubuf := s.ubuf ++ b, fed := s.fed ++ b }) := by
  rw [eq_pc hp]; rfl

theorem step_recv_timeout (hp : s.pc = .runRecv) : step cfg s .timeout = afterFrames cfg (frameLoop cfg s) := by
  rw [eq_pc hp]; rfl

end

theorem afterInner_lost {s : State} (h1 : s.stopped = false) (h2 : s.connected = false) :
    afterInner s = startConnect s .run := by
  simp [afterInner, h1, h2]

theorem runTop_subThen (cfg : Cfg) {s : State} (hst : s.stopped = false) :
    runTop s = subThen cfg s .run (sortBytes s.subs) := by
  simp only [runTop, hst, subThen, afterSub]; rfl

theorem closeSock_keeps (s : State) :
    (closeSock s).1.stopped = s.stopped ∧ (closeSock s).1.subs = s.subs ∧ (closeSock s).1.nsock = s.nsock := by
  fun_cases closeSock s
  · exact ⟨rfl, rfl, rfl⟩
  · exact ⟨rfl, rfl, rfl⟩

theorem startConnect_last (s : State) (w : Who) : (startConnect s w).2.getLast? = some (.attempt (s.nsock + 1)) := by
  show ((closeSock s).2 ++ [Out.attempt ((closeSock s).1.nsock + 1)]).getLast? = _
  rw [(closeSock_keeps s).2.2, List.getLast?_append]; rfl

theorem retry_last (s : State) (w : Who) : (retry s w).2.getLast? = some (.attempt (s.nsock + 1)) := by
  show ([Out.sleep] ++ (startConnect s w).2).getLast? = _
  rw [List.getLast?_append, startConnect_last]; rfl

theorem doAuth_enc (cfg : Cfg) (s : State) (who : Who) (f : Frame) (tail : Bytes) (hu : s.ubuf = []) (hf : f.WF) :
    doAuth cfg s who (enc f ++ tail) =
      if f.op.toNat = OP_INFO then
        match read f with
        | some (.ok (.info _ rand)) =>
          ({ s with ubuf := tail, fed := s.fed ++ (enc f ++ tail), popped := s.popped ++ [f], pc := .authSend who rand }, [])
        | _ => ({ s with ubuf := tail, fed := s.fed ++ (enc f ++ tail), popped := s.popped ++ [f], pc := .crashed }, [.exc])
      else retry { s with ubuf := tail, fed := s.fed ++ (enc f ++ tail), popped := s.popped ++ [f] } who := by
  unfold doAuth
  simp only [hu, List.nil_append, header_enc_append f tail hf, popFrame_enc_append]
  rfl

def sendOks (cfg : Cfg) (s : State) : Nat → State × List Out
  | 0 => (s, [])
  | n + 1 => let r := step cfg s .sendOk; let t := sendOks cfg r.1 n; (t.1, r.2 ++ t.2)

theorem sendOks_succ (cfg : Cfg) (s : State) (n : Nat) :
    sendOks cfg s (n + 1) = ((sendOks cfg (step cfg s .sendOk).1 n).1,
      (step cfg s .sendOk).2 ++ (sendOks cfg (step cfg s .sendOk).1 n).2) := rfl

theorem sendOks_mono (cfg : Cfg) (s : State) (n : Nat) : Mono s (sendOks cfg s n).1 := by
  induction n generalizing s with
  | zero => exact Mono.refl s
  | succ n ih => rw [sendOks_succ]; exact (mo_step cfg s .sendOk).trans (ih _)

theorem subThen_run (cfg : Cfg) {s : State} (hc : s.connected = true) (hu : usable s = true) (chs : List Bytes) :
    subThen cfg s .run chs =
      ({ s with pc := match chs with | [] => .runRecv | ch :: rest => .subSend ch rest .run }, []) := by
  cases chs with
  | nil => simp only [subThen, subLoop, afterSub, recvLoop, hc, hu, if_true]
  | cons ch rest => simp only [subThen, subLoop, hu, if_true, Bool.false_eq_true, if_false]

theorem subscribes (cfg : Cfg) : ∀ (chs : List Bytes) (s : State), s.connected = true → usable s = true →
    sendOks cfg (subThen cfg s .run chs).1 chs.length =
      ({ s with pc := .runRecv, sent := s.sent ++ chs.map (subFrame cfg) },
       chs.map fun c => .wrote s.nsock (subFrame cfg c))
  | [], s, hc, hu => by
    rw [subThen_run cfg hc hu, List.map_nil, List.append_nil]
    rfl
  | ch :: rest, s, hc, hu => by
    rw [subThen_run cfg hc hu, List.length_cons, sendOks_succ, step_subSend_ok cfg rfl,
      subscribes cfg rest { s with pc := .subSend ch rest .run, sent := s.sent ++ [subFrame cfg ch] } hc hu,
      subThen_run cfg (s := { s with pc := .subSend ch rest .run, sent := s.sent ++ [subFrame cfg ch] }) hc hu,
      List.append_assoc]
    rfl

/-- the state in which `do_auth` has just sent OP_AUTH on a fresh socket, seen from run()'s loop top -/
structure Fresh (cfg : Cfg) (s : State) (rand : Bytes) (t : State) : Prop where
  stopped : t.stopped = false
  subs : t.subs = s.subs
  nsock : t.nsock = s.nsock + 1
  connected : t.connected = true
  usable : usable t = true
  sent : t.sent = [authFrame cfg rand]

theorem back_at_loop_top (cfg : Cfg) (s : State) (hp : s.pc = .runRecv) (hst : s.stopped = false)
    (f : Frame) (n rand : Bytes) (hf : f.WF) (hop : f.op.toNat = OP_INFO) (hrd : read f = some (.ok (.info n rand))) :
    ∃ t, Fresh cfg s rand t ∧
      (step cfg (step cfg (step cfg (step cfg s .eof).1 .connOk).1 (.data (enc f))).1 .sendOk).1 = (runTop t).1 := by
  have hk := closeSock_keeps { s with connected := false }
  have ha := doAuth_enc cfg
    { (startConnect { s with connected := false } .run).1 with
      connected := true, sockUp := true, ubuf := [], fed := [], popped := [], pc := .authRecv .run } .run f [] rfl hf
  rw [List.append_nil, if_pos hop, hrd] at ha
  rw [step_recv_eof cfg hp, afterInner_lost (s := { s with connected := false }) hst rfl, step_connOk cfg rfl, step_auth_data cfg rfl,
    if_neg (enc_ne_nil f), ha, step_authed cfg rfl]
  refine ⟨_, ?_, rfl⟩
  exact ⟨hk.1.trans hst, hk.2.1, congrArg (· + 1) hk.2.2, rfl, rfl, rfl⟩

end Hpfeeds.BlkClient
