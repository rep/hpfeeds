/-
  What an event leaves alone.  A rejected frame: the sender is sent OP_ERROR and disconnected, and that is all
  (`Rejected`).  The other connections: an event about `c` can change another connection `d` only through
  `Server.publish`, which appends OP_PUBLISH writes to its log if it is open and forgets it if it is already closing
  (`OthersRel`); with write faults (Model/BrokerFault.lean) this holds of every `d` whose OWN transport takes writes.
-/
import Hpfeeds.Lemmas.BrokerFanout
import Hpfeeds.Lemmas.BrokerMoves
namespace Hpfeeds.Broker
open Hpfeeds Extracted

structure Rejected (s s' : State) (c : Nat) : Prop where
  accepted : s'.accepted = s.accepted
  subs : s'.subs = s.subs
  gauges : s'.gConns = s.gConns ∧ s'.gSubs = s.gSubs ∧ s'.cLost = s.cLost
  others : ∀ d, d ≠ c → s'.conn d = s.conn d
  self : ∀ x, s.conn c = some x → ∃ y, s'.conn c = some y ∧ y.closing = true ∧
    y.out = x.out ++ [(s.now, .write errFrame)] ++ (if x.closing then [] else [(s.now, .close)]) ∧
    y.active = x.active ∧ y.ak = x.ak ∧ y.granted = x.granted ∧ y.registered = x.registered ∧
    y.pubchans = x.pubchans ∧ y.subchans = x.subchans

theorem only_errorClose (s : State) (c : Nat) : ∀ d, d ≠ c → (errorClose s c).conn d = s.conn d :=
  (tupd_errorClose s c).frame.2.2

theorem errorClose_rejected (s : State) (c : Nat) : Rejected s (errorClose s c) c :=
  ⟨rfl, rfl, ⟨rfl, rfl, rfl⟩, only_errorClose s c,
   fun _ hx => ⟨_, errorClose_conn_eq hx, rfl, rfl, rfl, rfl, rfl, rfl, rfl, rfl⟩⟩

theorem reject_publish (cfg : Cfg) (s : State) (c : Nat) (x : Conn) (f : Frame) (ident ch p : Bytes)
    (hx : s.conn c = some x) (hauth : x.ak ≠ none)
    (hf : read f = some (.ok (.publish ident ch p)))
    (hbad : some ident ≠ x.ak ∨ ch ∉ x.pubchans) :
    messageReceived cfg s c f = (errorClose s c, .cont) := by
  refine (mr_publish hx hauth hf).trans ?_
  rcases hbad with h | h
  · rw [if_pos h]
  · by_cases h' : some ident ≠ x.ak
    · rw [if_pos h']
    · rw [if_neg h', if_pos h]

theorem forbidden_subscribe (cfg : Cfg) (s : State) (c : Nat) (x : Conn) (f : Frame) (ident ch : Bytes)
    (hx : s.conn c = some x) (hauth : x.ak ≠ none) (hreg : x.registered = true)
    (hf : read f = some (.ok (.subscribe ident ch))) (hbad : ch ∉ x.subchans) :
    messageReceived cfg s c f = (doSubscribe (errorClose s c) c ch false, .cont) := by
  refine (mr_subscribe hx hauth hf).trans ?_
  simp [hreg, hbad]

def IsPubWrite (e : Nat × Act) : Prop := ∃ f, e.2 = .write f ∧ f.op.toNat = OP_PUBLISH

def OthersRel (y y' : Conn) : Prop :=
  ∃ extra, DRel y y' extra ∧ (∀ e ∈ extra, IsPubWrite e) ∧ (y.closing = true → extra = [])

theorem OthersRel.refl (y : Conn) : OthersRel y y := ⟨[], DRel.refl y, by simp, fun _ => rfl⟩

theorem OthersRel.trans {a b c : Conn} (h1 : OthersRel a b) (h2 : OthersRel b c) : OthersRel a c := by
  obtain ⟨e1, r1, p1, c1⟩ := h1
  obtain ⟨e2, r2, p2, c2⟩ := h2
  refine ⟨e1 ++ e2, r1.trans r2, ?_, ?_⟩
  · intro e he; rw [List.mem_append] at he; rcases he with h | h
    · exact p1 e h
    · exact p2 e h
  · intro hc; rw [c1 hc, c2 (by rw [r1.closing]; exact hc)]; rfl

theorem publishF_othersRel (F : Nat → Bool) (s : State) (c : Nat) (x : Conn) (i ch p : Bytes) (d : Nat) (y : Conn)
    (hF : F d = false) (hy : s.conn d = some y) : ∃ y', (publishF F s c x i ch p).conn d = some y' ∧ OthersRel y y' := by
  rw [publishF_conn, hy, hF]
  split
  · refine ⟨_, rfl, _, (y.fanout_spec false _ s.now).resolve_right (fun h => nomatch h.2.1), fun e he => ?_,
      fun hc => if_neg fun h => ?_⟩
    · split at he
      · cases List.mem_singleton.mp he
        exact ⟨_, rfl, pubFrame_op i ch p⟩
      · cases he
    · rw [hc] at h; cases h.1
  · exact ⟨y, rfl, .refl y⟩

theorem publish_othersRel (s : State) (c : Nat) (x : Conn) (i ch p : Bytes) (d : Nat) (y : Conn)
    (hy : s.conn d = some y) : ∃ y', (publish s c x i ch p).conn d = some y' ∧ OthersRel y y' :=
  publishF_none ▸ publishF_othersRel (fun _ => false) s c x i ch p d y rfl hy

theorem others_stepF (F : Nat → Bool) (cfg : Cfg) (s : State) (e : Event) (d : Nat) (y : Conn)
    (hd : e.target ≠ some d) (hF : F d = false) (hy : s.conn d = some y) :
    ∃ y', (stepF F cfg s e).conn d = some y' ∧ OthersRel y y' := by
  -- the predicate carried through the event: where the record of `d` has got to
  let P (s' : State) := ∃ y', s'.conn d = some y' ∧ OthersRel y y'
  have pubs (F' : Nat → Bool) (hF' : F' d = false) (c : Nat) : PubPres (publishF F') c P :=
    fun s' x i ch p _ _ _ _ ⟨y1, hy1, r1⟩ =>
      (publishF_othersRel F' s' c x i ch p d y1 hF' hy1).imp fun _ k => ⟨k.1, r1.trans k.2⟩
  exact pres_stepG_at (P := P) s e
    (fun c hc => presAt_ofOwn
      (fun _ _ m ⟨y1, hy1, r1⟩ => ⟨y1, (m.others d fun h => hd (h ▸ hc)).trans hy1, r1⟩)
      (publishF_none ▸ pubs _ rfl c))
    (fun c _ => pubs F hF c)
    (fun _ _ h => h) ⟨y, hy, OthersRel.refl y⟩

theorem others_step (cfg : Cfg) (s : State) (e : Event) (d : Nat) (y : Conn)
    (hd : e.target ≠ some d) (hy : s.conn d = some y) :
    ∃ y', (step cfg s e).conn d = some y' ∧ OthersRel y y' :=
  stepF_none cfg s e ▸ others_stepF (fun _ => false) cfg s e d y hd rfl hy

end Hpfeeds.Broker
