/-
  Blocking reactor + thread session: invariants of the state and of (state, outputs so far), each checked on the
  atomic actions of Lemmas/BlkAtoms.lean, hence true after ALL event sequences (any interleaving of the reactor's
  rounds, the network and the three steps of every application thread's write); then the one progress result, the
  drain of the write path.
-/
import Hpfeeds.Lemmas.BlkAtoms
import Hpfeeds.Lemmas.Run
namespace Hpfeeds.BlkSession
open Hpfeeds Extracted

structure WInv (s : State) : Prop where
  bytes : s.wire ++ s.buffer ++ s.items.flatten = s.enq.flatten

theorem WInv.drained {s : State} (h : WInv s) (hb : s.buffer = []) (hi : s.items = []) : s.wire = s.enq.flatten := by
  have := h.bytes
  rwa [hb, hi, List.flatten_nil, List.append_nil, List.append_nil] at this

theorem winv_proto {cfg : Cfg} {s : State} {r : State × List Out} (a : Proto cfg s r) (h : WInv s) : WInv r.1 := by
  cases a with
  | info | enq => exact ⟨by simp [rwrite, markReady, ← h.bytes]⟩
  | dec | note | pub | close | crash => exact ⟨h.bytes⟩

theorem winv_atom {cfg : Cfg} {s : State} {r : State × List Out} (a : Atom cfg s r) (h : WInv s) : WInv r.1 := by
  cases a with
  | data c hl => exact (dataReceived_proto cfg s c hl).preserves (WInv) winv_proto h
  | put => exact ⟨by simp [← h.bytes]⟩
  | take f r hi => exact ⟨by simp [← h.bytes, hi]⟩
  | send k => exact ⟨by simp [← h.bytes]⟩
  | connect => exact ⟨rfl⟩
  | net | block | crash | lost | wBegin | stale | unready | wake | wakeStale | read => exact ⟨h.bytes⟩

def TState.gen : TState → Nat
  | .idle => 0
  | .captured g _ => g
  | .midPut g => g

/-- `m` threads are between the two halves of a put on outbox `g` -/
def Mids (thr : Nat → TState) (g m : Nat) : Prop :=
  ∃ S : List Nat, S.Nodup ∧ (∀ t, t ∈ S ↔ thr t = .midPut g) ∧ m = S.length

structure QInv (s : State) : Prop where
  count : s.items.length = s.wake + s.mid
  mids : Mids s.thr s.gen s.mid
  gens : ∀ t, (s.thr t).gen ≤ s.gen

section
variable {thr : Nat → TState} {g m t : Nat} {x : TState}

theorem Mids.zero (h : ∀ t, thr t ≠ .midPut g) : Mids thr g 0 :=
  ⟨[], List.nodup_nil, fun t => iff_of_false List.not_mem_nil (h t), rfl⟩

theorem Mids.eq_zero (h : Mids thr g m) (hq : ∀ t, thr t ≠ .midPut g) : m = 0 := by
  obtain ⟨S, _, hS, rfl⟩ := h
  exact List.length_eq_zero_iff.mpr (List.eq_nil_iff_forall_not_mem.mpr fun t ht => hq t ((hS t).mp ht))

theorem Mids.keep (h : Mids thr g m) (ht : thr t ≠ .midPut g) (hx : x ≠ .midPut g) :
    Mids (fun u => if u = t then x else thr u) g m := by
  obtain ⟨S, hnd, hS, hm⟩ := h
  refine ⟨S, hnd, fun u => ?_, hm⟩
  dsimp only
  split
  · next e => rw [hS, e]; exact iff_of_false ht hx
  · exact hS u

theorem Mids.join (h : Mids thr g m) (ht : thr t ≠ .midPut g) :
    Mids (fun u => if u = t then .midPut g else thr u) g (m + 1) := by
  obtain ⟨S, hnd, hS, rfl⟩ := h
  refine ⟨t :: S, List.nodup_cons.mpr ⟨mt (hS t).mp ht, hnd⟩, fun u => ?_, rfl⟩
  rw [List.mem_cons, hS]
  dsimp only
  split
  · next e => simp [e]
  · next e => simp [e]

theorem Mids.leave (h : Mids thr g m) (ht : thr t = .midPut g) (hx : x ≠ .midPut g) :
    0 < m ∧ Mids (fun u => if u = t then x else thr u) g (m - 1) := by
  obtain ⟨S, hnd, hS, rfl⟩ := h
  have hin := (hS t).mpr ht
  refine ⟨List.length_pos_of_mem hin, S.erase t, hnd.erase t, fun u => ?_, (List.length_erase_of_mem hin).symm⟩
  rw [hnd.mem_erase_iff, hS]
  dsimp only
  split
  · next e => simp [e, hx]
  · next e => simp [e]

theorem gens_set (h : ∀ u, (thr u).gen ≤ g) (hx : x.gen ≤ g) (u : Nat) : (if u = t then x else thr u).gen ≤ g := by
  split
  · exact hx
  · exact h u

end

theorem qinv_proto {cfg : Cfg} {s : State} {r : State × List Out} (a : Proto cfg s r) (h : QInv s) : QInv r.1 := by
  cases a with
  | info | enq => exact ⟨by simp [rwrite, markReady, h.count]; omega, h.mids, h.gens⟩
  | dec | note | pub | close | crash => exact ⟨h.count, h.mids, h.gens⟩

theorem qinv_atom {cfg : Cfg} {s : State} {r : State × List Out} (a : Atom cfg s r) (h : QInv s) : QInv r.1 := by
  cases a with
  | data c hl => exact (dataReceived_proto cfg s c hl).preserves (QInv) qinv_proto h
  | take f r hi hw => exact ⟨by have := h.count; simp [hi] at this ⊢; omega, h.mids, h.gens⟩
  | connect =>
    -- a thread between the halves of a put on the new outbox would hold an outbox of the future
    exact ⟨rfl, .zero fun t (hm : s.thr t = .midPut (s.gen + 1)) => by have := h.gens t; rw [hm, TState.gen] at this; omega,
      fun t => Nat.le_succ_of_le (h.gens t)⟩
  | wBegin t f subs ht => exact ⟨h.count, h.mids.keep (ht ▸ nofun) nofun, gens_set h.gens (Nat.le_refl _)⟩
  | put t f ht => exact ⟨by simp [h.count]; omega, h.mids.join (ht ▸ nofun), gens_set h.gens (Nat.le_refl _)⟩
  | stale t g f ht hg =>
    exact ⟨h.count, h.mids.keep (ht ▸ nofun) (fun e => hg (TState.midPut.inj e)),
      gens_set h.gens (by have := h.gens t; rwa [ht] at this)⟩
  | unready t g f ht => exact ⟨h.count, h.mids.keep (ht ▸ nofun) nofun, gens_set h.gens (Nat.zero_le _)⟩
  | wake t ht =>
    obtain ⟨hp, hm⟩ := h.mids.leave ht (x := .idle) nofun
    exact ⟨by have := h.count; simp only [this]; omega, hm, gens_set h.gens (Nat.zero_le _)⟩
  | wakeStale t g ht hg =>
    exact ⟨h.count, h.mids.keep (ht ▸ fun e => hg (TState.midPut.inj e)) nofun, gens_set h.gens (Nat.zero_le _)⟩
  | net | block | crash | lost | send | read => exact ⟨h.count, h.mids, h.gens⟩

theorem QInv.readable_iff {s : State} (h : QInv s) (hq : ∀ t, s.thr t ≠ .midPut s.gen) : 0 < s.wake ↔ s.items ≠ [] := by
  rw [← List.length_pos_iff, h.count, h.mids.eq_zero hq]
  rfl

structure AInv (cfg : Cfg) (s : State) : Prop where
  first : s.enq.head? = s.nonce.map (authFrame cfg)
  seen : ∀ r, s.nonce = some r → ∃ f ∈ s.processed, ∃ n, read f = some (.ok (.info n r))
  rdy : s.ready = true → s.nonce.isSome = true ∧ s.live = true

/-- a ready connection has answered a nonce, so its AUTH frame is at the head and stays there -/
theorem AInv.head_push {cfg : Cfg} {s : State} (h : AInv cfg s) (hr : s.ready = true) (f : Bytes) :
    (s.enq ++ [f]).head? = s.nonce.map (authFrame cfg) := by
  obtain ⟨r, e⟩ := Option.isSome_iff_exists.mp (h.rdy hr).1
  have := h.first
  rw [e] at this ⊢
  rw [List.head?_append, this]; rfl

theorem ainv_proto {cfg : Cfg} {s : State} {r : State × List Out} (a : Proto cfg s r) (h : AInv cfg s) :
    AInv cfg r.1 := by
  cases a with
  | info f n rand hf hrd hl =>
    -- the nonce answered is the first one: this frame's, and the outbox was empty, or an earlier one's
    refine ⟨?_, fun r hr => ?_, fun _ => ⟨?_, hl⟩⟩
    · show (s.enq ++ [authFrame cfg rand]).head? = (firstNonce s.nonce rand).map (authFrame cfg)
      rw [List.head?_append, h.first]; cases s.nonce <;> rfl
    · show ∃ g ∈ s.processed, ∃ n, read g = some (.ok (.info n r))
      replace hr : firstNonce s.nonce rand = some r := hr
      cases hn : s.nonce with
      | none => rw [hn] at hr; cases hr; exact ⟨f, hf, n, hrd⟩
      | some r0 => rw [hn] at hr; cases hr; exact h.seen _ hn
    · show (firstNonce s.nonce rand).isSome = true; cases s.nonce <;> rfl
  | enq f hr => exact ⟨h.head_push hr f, h.seen, h.rdy⟩
  | note f | pub f =>
    exact ⟨h.first, fun r hr => (h.seen r hr).imp fun g hg => ⟨List.mem_append_left _ hg.1, hg.2⟩, h.rdy⟩
  | dec | close | crash => exact ⟨h.first, h.seen, h.rdy⟩

theorem ainv_atom {cfg : Cfg} {s : State} {r : State × List Out} (a : Atom cfg s r) (h : AInv cfg s) :
    AInv cfg r.1 := by
  cases a with
  | data c hl => exact (dataReceived_proto cfg s c hl).preserves (AInv cfg) ainv_proto h
  | put t f _ hr => exact ⟨h.head_push hr f, h.seen, h.rdy⟩
  | lost => exact ⟨h.first, h.seen, nofun⟩
  | connect hl => exact ⟨rfl, nofun, fun hr => by rw [(h.rdy hr).2] at hl; cases hl⟩
  | net | block | crash | take | send | wBegin | stale | unready | wake | wakeStale | read =>
    exact ⟨h.first, h.seen, h.rdy⟩

structure RInv (s : State) : Prop where
  fifo : s.received = s.handed ++ s.rq
  pubs : s.received = s.allProcessed.filterMap pubOf

theorem rinv_proto {cfg : Cfg} {s : State} {r : State × List Out} (a : Proto cfg s r) (h : RInv s) : RInv r.1 := by
  cases a with
  | note f hp => exact ⟨h.fifo, by simp [noteFrame, hp, h.pubs]⟩
  | pub f m hp => exact ⟨by simp [noteFrame, h.fifo], by simp [noteFrame, hp, h.pubs]⟩
  | dec | info | enq | close | crash => exact ⟨h.fifo, h.pubs⟩

theorem rinv_atom {cfg : Cfg} {s : State} {r : State × List Out} (a : Atom cfg s r) (h : RInv s) : RInv r.1 := by
  cases a with
  | data c hl => exact (dataReceived_proto cfg s c hl).preserves (RInv) rinv_proto h
  | read m q hq => exact ⟨by simp [h.fifo, hq], h.pubs⟩
  | net | block | crash | lost | take | send | connect | wBegin | put | stale | unready | wake | wakeStale =>
    exact ⟨h.fifo, h.pubs⟩

structure Inv (cfg : Cfg) (s : State) : Prop where
  w : WInv s
  q : QInv s
  a : AInv cfg s
  r : RInv s

theorem inv_init (cfg : Cfg) : Inv cfg {} :=
  ⟨⟨rfl⟩, ⟨rfl, .zero nofun, fun _ => Nat.le_refl _⟩,
   ⟨rfl, nofun, nofun⟩, ⟨rfl, rfl⟩⟩

theorem inv_atom {cfg : Cfg} {s : State} {r : State × List Out} (a : Atom cfg s r) (h : Inv cfg s) : Inv cfg r.1 :=
  ⟨winv_atom a h.w, qinv_atom a h.q, ainv_atom a h.a, rinv_atom a h.r⟩

theorem Inv.before_info {cfg : Cfg} {s : State} (h : Inv cfg s) (hn : s.nonce = none) :
    s.enq = [] ∧ s.wire = [] ∧ s.buffer = [] := by
  have he : s.enq = [] := List.head?_eq_none_iff.mp (by rw [h.a.first, hn]; rfl)
  have hw := h.w.bytes
  rw [he] at hw
  simp only [List.flatten_nil, List.append_eq_nil_iff] at hw
  exact ⟨he, hw.1.1, hw.1.2⟩

theorem Inv.after_info {cfg : Cfg} {s : State} {r : Bytes} (h : Inv cfg s) (hn : s.nonce = some r) :
    ∃ rest, s.enq = authFrame cfg r :: rest ∧ s.wire <+: authFrame cfg r ++ rest.flatten := by
  obtain ⟨rest, e⟩ := List.head?_eq_some_iff.mp (by rw [h.a.first, hn]; rfl)
  exact ⟨rest, e, s.buffer ++ s.items.flatten, by rw [← List.append_assoc, h.w.bytes, e]; rfl⟩

def bytesOn (k : Nat) (outs : List Out) : Bytes :=
  (outs.filterMap fun o => match o with
    | .sent k' b => if k' = k then some b else none
    | _ => none).flatten

theorem bytesOn_append (k : Nat) (a b : List Out) : bytesOn k (a ++ b) = bytesOn k a ++ bytesOn k b := by
  simp [bytesOn, List.filterMap_append]

theorem bytesOn_sent (k g : Nat) (b : Bytes) : bytesOn k [.sent g b] = if g = k then b else [] := by
  unfold bytesOn; by_cases h : g = k <;> simp [h]

structure GB (acc : State × List Out) : Prop where
  cur : bytesOn acc.1.gen acc.2 = acc.1.wire
  future : ∀ k, acc.1.gen < k → bytesOn k acc.2 = []

/-- what C11 says about the bytes on one connection's wire -/
def GoodB (cfg : Cfg) (w : Bytes) : Prop := w = [] ∨ ∃ (r : Bytes) (tail : Bytes), w <+: authFrame cfg r ++ tail

theorem Inv.wire_good {cfg : Cfg} {s : State} (h : Inv cfg s) : GoodB cfg s.wire := by
  cases hn : s.nonce with
  | none => exact .inl (h.before_info hn).2.1
  | some r => obtain ⟨rest, _, hp⟩ := h.after_info hn; exact .inr ⟨r, _, hp⟩

/-- what the outputs show sent, connection by connection -/
structure Sent (cfg : Cfg) (acc : State × List Out) : Prop where
  gb : GB acc
  good : ∀ k, GoodB cfg (bytesOn k acc.2)

theorem Sent.frame {cfg : Cfg} {acc r : State × List Out} (h : Sent cfg acc) (hg : r.1.gen = acc.1.gen)
    (hw : r.1.wire = acc.1.wire) (ho : ∀ k, bytesOn k r.2 = []) : Sent cfg (r.1, acc.2 ++ r.2) := by
  have e (k : Nat) : bytesOn k (acc.2 ++ r.2) = bytesOn k acc.2 := by rw [bytesOn_append, ho, List.append_nil]
  exact ⟨⟨by rw [e, hg, hw]; exact h.gb.cur, fun k hk => by rw [e]; exact h.gb.future k (hg ▸ hk)⟩,
    fun k => by rw [e]; exact h.good k⟩

theorem sent_proto {cfg : Cfg} {acc r : State × List Out} (a : Proto cfg acc.1 r) (h : Sent cfg acc) :
    Sent cfg (r.1, acc.2 ++ r.2) := by
  cases a <;> exact h.frame rfl rfl (fun _ => rfl)

theorem sent_atom {cfg : Cfg} {acc r : State × List Out} (a : Atom cfg acc.1 r) (hi : Inv cfg r.1) (h : Sent cfg acc) :
    Sent cfg (r.1, acc.2 ++ r.2) := by
  cases a with
  | data c hl => exact (dataReceived_proto cfg _ c hl).lift sent_proto acc.2 h
  | send n =>
    refine ⟨⟨by simp [bytesOn_append, bytesOn_sent, h.gb.cur],
      fun k hk => by simp [bytesOn_append, bytesOn_sent, h.gb.future k hk, Nat.ne_of_lt hk]⟩, fun k => ?_⟩
    -- the bytes shown for the current connection become its `wire`, good by `hi`; those of the others stay
    rw [bytesOn_append, bytesOn_sent]
    split
    · next hk => rw [← hk, h.gb.cur]; exact hi.wire_good
    · rw [List.append_nil]; exact h.good k
  | connect =>
    exact ⟨⟨by simpa using h.gb.future _ (Nat.lt_succ_self _),
      fun k hk => by simpa using h.gb.future k (Nat.lt_of_succ_lt hk)⟩, fun k => by simpa using h.good k⟩
  | net | block | crash | lost | take | wBegin | put | stale | unready | wake | wakeStale | read =>
    exact h.frame rfl rfl (fun _ => rfl)

def handedOf : Out → Option Message
  | .handed m => some m
  | _ => none

def Quiet' (o : List Out) : Prop := o.filterMap handedOf = []

theorem q_nil : Quiet' [] := rfl

def Echo (acc : State × List Out) : Prop := acc.2.filterMap handedOf = acc.1.handed

theorem Echo.frame {acc r : State × List Out} (h : Echo acc) (hh : r.1.handed = acc.1.handed) (ho : Quiet' r.2) :
    Echo (r.1, acc.2 ++ r.2) := by
  unfold Echo at *; rw [List.filterMap_append, ho, List.append_nil, hh]; exact h

theorem echo_proto {cfg : Cfg} {acc r : State × List Out} (a : Proto cfg acc.1 r) (h : Echo acc) :
    Echo (r.1, acc.2 ++ r.2) := by
  cases a <;> exact h.frame rfl rfl

theorem echo_atom {cfg : Cfg} {acc r : State × List Out} (a : Atom cfg acc.1 r) (h : Echo acc) :
    Echo (r.1, acc.2 ++ r.2) := by
  cases a with
  | data c hl => exact (dataReceived_proto cfg _ c hl).lift echo_proto acc.2 h
  | read m q => unfold Echo at *; simp [handedOf, h]
  | net | block | crash | lost | take | send | connect | wBegin | put | stale | unready | wake | wakeStale =>
    exact h.frame rfl rfl

structure Obs (cfg : Cfg) (acc : State × List Out) : Prop where
  inv : Inv cfg acc.1
  sent : Sent cfg acc
  echo : Echo acc

theorem obs_atom {cfg : Cfg} {acc r : State × List Out} (a : Atom cfg acc.1 r) (h : Obs cfg acc) :
    Obs cfg (r.1, acc.2 ++ r.2) :=
  have hi : Inv cfg r.1 := inv_atom a h.inv
  ⟨hi, sent_atom a hi h.sent, echo_atom a h.echo⟩

theorem obs_run (cfg : Cfg) (es : List Ev) : Obs cfg (run cfg es) :=
  run_induction (step cfg) (fun acc e h => (step_atoms cfg acc.1 e).lift obs_atom acc.2 h) es _
    ⟨inv_init cfg, ⟨⟨rfl, fun _ _ => rfl⟩, fun _ => .inl rfl⟩, rfl⟩

theorem run_inv (cfg : Cfg) (es : List Ev) : Inv cfg (run cfg es).1 := (obs_run cfg es).inv

/-- a connection with nothing to read, no put half-way and no empty frame queued -/
structure Quiet (s : State) : Prop where
  live : s.live = true
  notDead : s.dead = false
  open_ : s.sockClosed = false
  noIn : s.pendingIn = []
  noEof : s.eof = false
  woken : s.wake = s.items.length
  nonEmpty : ∀ f ∈ s.items, f ≠ []

def todo (s : State) : Nat := s.buffer.length + s.items.flatten.length + s.items.length

theorem select_quiet (cfg : Cfg) {s : State} (hq : Quiet s) (o : Send) :
    step cfg s (.sel o) =
      if s.buffer = [] then (if s.items = [] then (s, [.block]) else outboxReady s o) else writeReady s o := by
  obtain ⟨h1, h2, h3, h4, h5, h6, _⟩ := hq
  by_cases hb : s.buffer = [] <;> by_cases hi : s.items = [] <;>
    simp [step, select, readPhase, h1, h2, h3, h4, h5, h6, hb, hi, List.length_pos_iff]

theorem writeReady_accept {s : State} {n : Nat} (hc : s.sockClosed = false) (hk : min n s.buffer.length ≠ 0) :
    writeReady s (.accept n) =
      ({ s with buffer := s.buffer.drop (min n s.buffer.length), wire := s.wire ++ s.buffer.take (min n s.buffer.length) },
       [.sent s.gen (s.buffer.take (min n s.buffer.length))]) := by
  simp [writeReady, hc, hk]

theorem Quiet.send {s : State} {n : Nat} (hq : Quiet s) (hb : s.buffer ≠ []) (hn : 1 ≤ n) :
    Quiet (writeReady s (.accept n)).1 ∧ (writeReady s (.accept n)).1.enq = s.enq ∧
    todo (writeReady s (.accept n)).1 < todo s := by
  have := List.length_pos_iff.mpr hb
  rw [writeReady_accept hq.open_ (by omega)]
  exact ⟨⟨hq.live, hq.notDead, hq.open_, hq.noIn, hq.noEof, hq.woken, hq.nonEmpty⟩, rfl, by simp [todo]; omega⟩

theorem Quiet.take {s : State} {f : Bytes} {r : List Bytes} (hq : Quiet s) (hi : s.items = f :: r) :
    Quiet { s with items := r, wake := s.wake - 1, buffer := s.buffer ++ f } ∧
    todo { s with items := r, wake := s.wake - 1, buffer := s.buffer ++ f } + 1 = todo s :=
  ⟨⟨hq.live, hq.notDead, hq.open_, hq.noIn, hq.noEof, by simp [hq.woken, hi],
    fun g hg => hq.nonEmpty g (by simp [hi, hg])⟩, by simp [todo, hi]; omega⟩

theorem quiet_round (cfg : Cfg) (s : State) (n : Nat) (hq : Quiet s) (hn : 1 ≤ n) :
    Quiet (step cfg s (.sel (.accept n))).1 ∧ (step cfg s (.sel (.accept n))).1.enq = s.enq ∧
    todo (step cfg s (.sel (.accept n))).1 ≤ todo s - 1 := by
  rw [select_quiet cfg hq]
  split
  · next hb =>
    cases hi : s.items with
    | nil => exact ⟨hq, rfl, by simp [todo, hb, hi]⟩
    | cons f r =>
      obtain ⟨q, ht⟩ := hq.take hi
      obtain ⟨q', he, hlt⟩ := q.send (by simp [hq.nonEmpty f (by simp [hi])]) hn
      simp only [reduceCtorEq, if_false, outboxReady, hi]
      exact ⟨q', he, by omega⟩
  · next hb =>
    obtain ⟨q', he, hlt⟩ := hq.send hb hn
    exact ⟨q', he, by omega⟩

/-- every round lowers `todo` while it is positive (`quiet_round`); at 0 the buffer and the outbox are empty -/
theorem quiet_drains (cfg : Cfg) (ns : List Nat) (hns : ∀ n ∈ ns, 1 ≤ n) (acc : State × List Out) (hw : WInv acc.1)
    (hq : Quiet acc.1) (hk : todo acc.1 ≤ ns.length) :
    ((ns.map fun n => Ev.sel (.accept n)).foldl (fun acc e => let r := step cfg acc.1 e; (r.1, acc.2 ++ r.2)) acc).1.wire =
      acc.1.enq.flatten := by
  induction ns generalizing acc with
  | nil =>
    have : acc.1.buffer.length = 0 ∧ acc.1.items.length = 0 := by
      simp only [todo, List.length_nil] at hk
      omega
    exact hw.drained (List.eq_nil_of_length_eq_zero this.1) (List.eq_nil_of_length_eq_zero this.2)
  | cons n ns ih =>
    obtain ⟨q1, q2, q3⟩ := quiet_round cfg acc.1 n hq (hns n (by simp))
    have hk' : todo (step cfg acc.1 (.sel (.accept n))).1 ≤ ns.length := by
      simp only [List.length_cons] at hk
      omega
    rw [← q2]
    exact ih (fun m hm => hns m (by simp [hm])) (_, acc.2 ++ (step cfg acc.1 (.sel (.accept n))).2)
      ((step_atoms cfg acc.1 _).preserves WInv winv_atom hw) q1 hk'

/-! Frame relations of the model's field groups: `s'` agrees with `s` on the fields of the application threads, the
    write path, the handshake, the receive side, the decoder.  (The invariants above are checked action by action and
    do not go through them.) -/

structure SameApp (s s' : State) : Prop where
  gen : s'.gen = s.gen
  thr : s'.thr = s.thr
  mid : s'.mid = s.mid
  subs : s'.subs = s.subs
  handed : s'.handed = s.handed

structure SameW (s s' : State) : Prop where
  items : s'.items = s.items
  wake : s'.wake = s.wake
  buffer : s'.buffer = s.buffer
  wire : s'.wire = s.wire
  enq : s'.enq = s.enq

structure SameA (s s' : State) : Prop where
  nonce : s'.nonce = s.nonce
  enq : s'.enq = s.enq
  processed : s'.processed = s.processed
  ready : s'.ready = s.ready
  live : s'.live = s.live

theorem SameA.refl (s : State) : SameA s s := ⟨rfl, rfl, rfl, rfl, rfl⟩
theorem SameA.trans {a b c : State} (h1 : SameA a b) (h2 : SameA b c) : SameA a c :=
  ⟨h2.nonce.trans h1.nonce, h2.enq.trans h1.enq, h2.processed.trans h1.processed, h2.ready.trans h1.ready,
   h2.live.trans h1.live⟩

structure SameR (s s' : State) : Prop where
  inbound : s'.inbound = s.inbound
  processed : s'.processed = s.processed
  ubuf : s'.ubuf = s.ubuf
  received : s'.received = s.received
  handed : s'.handed = s.handed
  rq : s'.rq = s.rq
  allProcessed : s'.allProcessed = s.allProcessed

structure SameU (s s' : State) : Prop where
  ubuf : s'.ubuf = s.ubuf
  processed : s'.processed = s.processed
  dead : s'.dead = false → s.dead = false
  closed : s'.sockClosed = false → s.sockClosed = false

end Hpfeeds.BlkSession
