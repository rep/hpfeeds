/-
  The registry invariant: `Server.subscriptions` and the connections' `active_subscriptions` say the same, without
  duplicates; a connection the broker has unregistered holds no subscription; a lost one is closing and
  unregistered; `ids` lists exactly the connections there are.  Here each primitive keeps it; that every history does
  is read off `Own` in Lemmas/BrokerMoves.
-/
import Hpfeeds.Lemmas.BrokerEffect
namespace Hpfeeds.Broker
open Hpfeeds Extracted

structure Reg (s : State) : Prop where
  sub_iff : ∀ ch c, c ∈ s.subs ch ↔ ∃ x, s.conn c = some x ∧ ch ∈ x.active
  subs_nodup : ∀ ch, (s.subs ch).Nodup
  act_nodup : ∀ c x, s.conn c = some x → x.active.Nodup
  unreg_empty : ∀ c x, s.conn c = some x → x.registered = false → x.active = []
  gone_closed : ∀ c x, s.conn c = some x → x.gone = true → x.closing = true ∧ x.registered = false
  ids_iff : ∀ c, c ∈ s.ids ↔ (s.conn c).isSome = true
  ids_nodup : s.ids.Nodup

theorem Reg.mem_subs {s : State} {c : Nat} {x : Conn} (h : Reg s) (hx : s.conn c = some x) (ch : Bytes) :
    c ∈ s.subs ch ↔ ch ∈ x.active := by
  rw [h.sub_iff]; simp [hx]

theorem reg_init : Reg init := by
  constructor <;> simp [init]

structure SetRec (s s' : State) (c : Nat) (y : Conn) : Prop where
  conn : ∀ d, s'.conn d = if d = c then some y else s.conn d
  ids : s'.ids = if (s.conn c).isSome then s.ids else s.ids ++ [c]

theorem SetRec.upd {s : State} {c : Nat} {x : Conn} (f : Conn → Conn) (hx : s.conn c = some x) :
    SetRec s (s.upd c f) c (f x) :=
  ⟨upd_conn_at f hx, by rw [hx]; rfl⟩

theorem SetRec.allRec {s s' : State} {c : Nat} {y : Conn} {P : Conn → Prop} (hset : SetRec s s' c y) (hy : P y)
    (hs : ∀ d z, s.conn d = some z → P z) (d : Nat) (z : Conn) (hz : s'.conn d = some z) : P z := by
  rw [hset.conn] at hz
  split at hz
  · exact Option.some.inj hz ▸ hy
  · exact hs d z hz

theorem reg_of_fields {s s' : State} {c : Nat} {y : Conn} (hset : SetRec s s' c y)
    (hself : ∀ ch, c ∈ s'.subs ch ↔ ch ∈ y.active)
    (hothers : ∀ ch d, d ≠ c → (d ∈ s'.subs ch ↔ d ∈ s.subs ch))
    (hnd : ∀ ch, (s'.subs ch).Nodup)
    (hact : y.active.Nodup)
    (hunreg : y.registered = false → y.active = [])
    (hgone : y.gone = true → y.closing = true ∧ y.registered = false)
    (h : Reg s) : Reg s' := by
  refine ⟨fun ch d => ?_, hnd, hset.allRec hact h.act_nodup, hset.allRec hunreg h.unreg_empty,
    hset.allRec hgone h.gone_closed, fun d => ?_, ?_⟩
  · rw [hset.conn]
    by_cases hd : d = c
    · simp [hd, hself]
    · simp only [hd, if_false, hothers ch d hd]; exact h.sub_iff ch d
  · rw [hset.ids, hset.conn]
    by_cases hd : d = c
    · subst hd; split <;> simp [h.ids_iff, *]
    · split <;> simp [h.ids_iff, hd]
  · rw [hset.ids]
    split
    · exact h.ids_nodup
    · rename_i hc
      exact nodup_snoc h.ids_nodup (fun hm => hc ((h.ids_iff c).mp hm))

theorem reg_upd_at {s : State} {c : Nat} {x : Conn} (f : Conn → Conn) (hx : s.conn c = some x)
    (ha : (f x).active = x.active) (hu : (f x).registered = false → x.active = [])
    (hg : (f x).gone = true → (f x).closing = true ∧ (f x).registered = false) (h : Reg s) :
    Reg (s.upd c f) :=
  reg_of_fields (.upd f hx) (fun ch => ha ▸ h.mem_subs hx ch)
    (fun _ _ _ => Iff.rfl) h.subs_nodup (ha ▸ h.act_nodup c x hx) (ha ▸ hu) hg h

theorem reg_upd {s : State} (c : Nat) (f : Conn → Conn)
    (hf : ∀ x, (f x).active = x.active ∧ (f x).registered = x.registered ∧ (f x).gone = x.gone ∧
      (x.closing = true → (f x).closing = true)) (h : Reg s) : Reg (s.upd c f) := by
  cases hx : s.conn c with
  | none => rw [upd_of_none f hx]; exact h
  | some x =>
    obtain ⟨h1, h2, h3, h4⟩ := hf x
    refine reg_upd_at f hx h1 (h2 ▸ h.unreg_empty c x hx) ?_ h
    rw [h3, h2]
    exact fun hg => ⟨h4 (h.gone_closed c x hx hg).1, (h.gone_closed c x hx hg).2⟩

theorem reg_congr {s s' : State} (h1 : s'.conn = s.conn) (h2 : s'.subs = s.subs) (h3 : s'.ids = s.ids)
    (h : Reg s) : Reg s' := by
  cases s; cases s'; cases h1; cases h2; cases h3
  exact ⟨h.sub_iff, h.subs_nodup, h.act_nodup, h.unreg_empty, h.gone_closed, h.ids_iff, h.ids_nodup⟩

theorem reg_tupd {c : Nat} {s s' : State} (q : TUpd c s s') (h : Reg s) : Reg s' := by
  obtain ⟨f, rfl, hf⟩ := q
  refine reg_upd c f (fun x => ?_) h
  have e := (TSteps.session (hf x))
  exact ⟨by rw [e.1], by rw [e.1], by rw [e.1], e.2⟩

theorem reg_errorClose {s : State} (c : Nat) (h : Reg s) : Reg (errorClose s c) :=
  reg_tupd (tupd_errorClose s c) h

theorem reg_setAuth {s : State} (c : Nat) (i d : Bytes) (row : Row) (h : Reg s) : Reg (setAuth s c i d row) := by
  unfold setAuth
  split
  · exact h
  · exact reg_upd c _ (fun _ => ⟨rfl, rfl, rfl, fun h => h⟩)
      (reg_congr (s := s) rfl rfl rfl h)

theorem reg_subscribe {s : State} (c : Nat) (ch : Bytes) (x : Conn) (hx : s.conn c = some x)
    (hreg : x.registered = true) (h : Reg s) : Reg (subscribe s c ch) := by
  by_cases hin : ch ∈ x.active
  · rw [subscribe_noop hx hin]; exact h
  · rw [subscribe_eq hx hin]
    have hc : c ∉ s.subs ch := fun hm => hin ((h.mem_subs hx ch).mp hm)
    refine reg_of_fields (y := { x with active := x.active ++ [ch] }) ⟨fun d => rfl, by rw [hx]; rfl⟩
      (fun ch' => ?_) (fun ch' d hd => ?_) (fun ch' => ?_) (nodup_snoc (h.act_nodup _ _ hx) hin) (by simp [hreg])
      (h.gone_closed c x hx) h
    · by_cases hch : ch' = ch
      · simp [hch]
      · simp only [hch, if_false, List.mem_append, List.mem_singleton, or_false]; exact h.mem_subs hx ch'
    · simp only; split <;> simp [hd]
    · simp only; split
      · rename_i hch; subst hch; exact nodup_snoc (h.subs_nodup _) hc
      · exact h.subs_nodup _

theorem reg_unsubscribe {s : State} (c : Nat) (ch : Bytes) (h : Reg s) : Reg (unsubscribe s c ch) := by
  cases hx : s.conn c with
  | none => rw [unsubscribe_none hx]; exact h
  | some x =>
    by_cases hin : ch ∈ x.active
    · rw [unsubscribe_eq hx hin]
      have hnd := h.act_nodup c x hx
      refine reg_of_fields (y := { x with active := x.active.erase ch }) ⟨fun d => rfl, by rw [hx]; rfl⟩
        (fun ch' => ?_) (fun ch' d hd => ?_) (fun ch' => ?_) (hnd.erase _)
        (fun hr => by simp [h.unreg_empty c x hx hr]) (h.gone_closed c x hx) h
      · simp only [List.Nodup.mem_erase_iff hnd]
        split
        · simp [List.Nodup.mem_erase_iff (h.subs_nodup _), *]
        · rename_i hch; simp [hch, h.mem_subs hx]
      · simp only; split
        · rw [List.Nodup.mem_erase_iff (h.subs_nodup _)]; simp [hd]
        · rfl
      · simp only; split
        · exact (h.subs_nodup _).erase _
        · exact h.subs_nodup _
    · rw [unsubscribe_noop hx hin]; exact h

theorem reg_connectionLost {s : State} (c : Nat) (h : Reg s) : Reg (connectionLost s c) := by
  unfold connectionLost
  split
  · exact h
  · rename_i x hx
    split
    · rename_i hr
      have h1 : Reg (countLost s x.ak) := reg_congr (s := s) rfl rfl rfl h
      have h2 := foldl_pres (fun _ ch => reg_unsubscribe c ch) x.active h1
      have hc := foldl_unsubscribe_conn (s := countLost s x.ak) (c := c) x.active hx
      rw [foldl_erase_self] at hc
      -- what is left is `registered := false` on a record whose active list is empty
      generalize (x.active.foldl (fun s ch => unsubscribe s c ch) _) = s2 at h2 hc ⊢
      exact reg_upd_at _ hc rfl (fun _ => rfl) (fun hg => ⟨(h.gone_closed c x hx hg).1, rfl⟩) h2
    · exact h

theorem reg_deliverF {s : State} (F : Nat → Bool) (f : Frame) (d : Nat) (h : Reg s) : Reg (deliverF F f s d) := by
  fun_cases deliverF F f s d
  · exact h
  · exact reg_connectionLost d h
  · exact reg_tupd (tupd_closeT s d) h
  · exact reg_upd d _ (fun _ => ⟨rfl, rfl, rfl, id⟩) h

theorem reg_publishF {s : State} (F : Nat → Bool) (c : Nat) (x : Conn) (i ch p : Bytes) (h : Reg s) :
    Reg (publishF F s c x i ch p) :=
  reg_congr (s := (s.subs ch).eraseDups.foldl (deliverF F (pubFrame i ch p)) s) rfl rfl rfl
    (foldl_pres (fun _ d => reg_deliverF F _ d) _ h)

theorem reg_publish {s : State} (c : Nat) (x : Conn) (i ch p : Bytes) (h : Reg s) :
    Reg (publish s c x i ch p) :=
  publishF_none ▸ reg_publishF (fun _ => false) c x i ch p h

theorem reg_addConn {cfg : Cfg} {s : State} (c : Nat) (n : Bytes) (hc : s.conn c = none) (h : Reg s) :
    Reg (addConn cfg s c n) :=
  reg_of_fields (s := s) ⟨fun d => rfl, by rw [hc]; rfl⟩ (fun ch => by simp [addConn, h.sub_iff, hc])
    (fun _ _ _ => Iff.rfl) h.subs_nodup List.nodup_nil (fun _ => rfl) nofun h

theorem reg_markGone {s : State} (c : Nat) (x : Conn) (hx : s.conn c = some x) (hr : x.registered = false)
    (h : Reg s) : Reg (markGone s c) := by
  have hp := reg_tupd (tupd_peerClose s c) h
  exact reg_upd_at _ (peerClose_conn_eq hx) rfl (fun _ => hp.unreg_empty c _ (peerClose_conn_eq hx) hr)
    (fun _ => ⟨rfl, hr⟩) hp

theorem Conn.forgotten_unreg (x : Conn) : x.forgotten.registered = false := by
  unfold Conn.forgotten
  split
  · rfl
  · exact eq_false_of_ne_true ‹_›

theorem reg_lostConn {s : State} (c : Nat) (x : Conn) (hx : s.conn c = some x) (h : Reg s) :
    Reg (lostConn s c) :=
  reg_markGone c _ (connectionLost_conn hx) x.forgotten_unreg (reg_connectionLost c h)

theorem reg_doSubscribe {s : State} (c : Nat) (ch : Bytes) (ok : Bool) (x : Conn) (hx : s.conn c = some x)
    (hreg : x.registered = true) (h : Reg s) : Reg (doSubscribe s c ch ok) :=
  reg_upd c _ (fun _ => ⟨rfl, rfl, rfl, fun h => h⟩) (reg_subscribe c ch x hx hreg h)

theorem reg_doUnsubscribe {s : State} (c : Nat) (ch : Bytes) (h : Reg s) : Reg (doUnsubscribe s c ch) :=
  reg_upd c _ (fun _ => ⟨rfl, rfl, rfl, fun h => h⟩) (reg_unsubscribe c ch h)

end Hpfeeds.Broker
