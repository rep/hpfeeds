/-
  Pre-fix definitions of code that received a "fix:" commit, with kernel-checked witnesses of the
  violation (so the reason each fix was needed stays machine-checked, and the witnesses stay in the
  correspondence corpus).
-/
import Hpfeeds.Model.Wire
import Hpfeeds.Model.BlkSession
import Hpfeeds.Model.BlkClient
namespace Hpfeeds.Legacy
open Hpfeeds Extracted

/-! ### D1 — `Unpacker.ready()` before "fix: reject frame headers announcing a length below the
    5-byte header" (commit 87e0078): no lower bound on the announced length. -/

/-- Python `l[:k]` for a possibly negative `k` -/
def pySliceTo (l : Bytes) (k : Int) : Bytes :=
  if k ≥ 0 then l.take k.toNat else l.take (l.length - (-k).toNat)
/-- Python `del l[:k]` for a possibly negative `k` -/
def pyDelTo (l : Bytes) (k : Int) : Bytes :=
  if k ≥ 0 then l.drop k.toNat else l.drop (l.length - (-k).toNat)

/-- pinned `ready()`: `some ml` when it returned True -/
def legacyReady (buf : Bytes) : Option Int :=
  match buf with
  | b0 :: b1 :: b2 :: b3 :: op :: _ =>
    let ml := toSigned (u32 b0 b1 b2 b3)
    if op.toNat < OP_ERROR ∨ op.toNat > OP_UNSUBSCRIBE then none
    else if ml > (limit op.toNat : Int) then none
    else if (buf.length : Int) < ml then none
    else some ml
  | _ => none

/-- pinned `pop()` -/
def legacyPop (buf : Bytes) (ml : Int) : Bytes × Bytes :=
  (pySliceTo (buf.drop 5) (ml - 5), pyDelTo buf ml)

/-- A header announcing length 0 is "ready", and popping it consumes nothing: the pinned decoder
    yields empty frames for ever (for any following bytes `x`). -/
theorem d1_no_progress (x : Bytes) :
    legacyReady ([0, 0, 0, 0, 1] ++ x) = some 0 ∧
    (legacyPop ([0, 0, 0, 0, 1] ++ x) 0).2 = [0, 0, 0, 0, 1] ++ x := by
  constructor
  · simp [legacyReady, u32, toSigned, OP_ERROR, OP_UNSUBSCRIBE]
    omega
  · rfl

/-- the same with the most negative length -/
theorem d1_no_progress_neg (x : Bytes) (hx : x.length + 5 ≤ 2147483648) :
    legacyReady ([128, 0, 0, 0, 1] ++ x) = some (-2147483648) ∧
    (legacyPop ([128, 0, 0, 0, 1] ++ x) (-2147483648)).2 = [128, 0, 0, 0, 1] ++ x := by
  constructor
  · simp [legacyReady, u32, toSigned, OP_ERROR, OP_UNSUBSCRIBE]
    omega
  · have : x.length + 1 + 1 + 1 + 1 + 1 - 2147483648 = 0 := by omega
    simp [legacyPop, pyDelTo, this]

/-- the fixed decoder rejects both headers at once -/
theorem d1_fixed (x : Bytes) :
    header ([0, 0, 0, 0, 1] ++ x) = .bad .tooSmall ∧ header ([128, 0, 0, 0, 1] ++ x) = .bad .tooSmall :=
  -- `announced` on the five bytes evaluates
  ⟨header_cons 0 0 0 0 1 x, header_cons 128 0 0 0 1 x⟩

end Hpfeeds.Legacy

namespace Hpfeeds.Legacy

/-! ### D2 — `Server.subscribe` / `unsubscribe` before "fix: make broker subscribe/unsubscribe idempotent
    per connection and channel" (commit d618c60): the channel list was appended to unconditionally while
    `active_subscriptions` is a set, and `unsubscribe` / `connection_lost` removed one entry per set
    element. -/

/-- pinned `self.subscriptions[chan].append(source)` -/
def legacySub (l : List Nat) (c : Nat) : List Nat := l ++ [c]
/-- pinned `if source in self.subscriptions[chan]: self.subscriptions[chan].remove(source)` -/
def legacyUnsub (l : List Nat) (c : Nat) : List Nat := l.erase c

/-- SUBSCRIBE, SUBSCRIBE, UNSUBSCRIBE: the connection is still in the channel's list (so it still gets
    every message, C08) -/
theorem d2_still_subscribed : 1 ∈ legacyUnsub (legacySub (legacySub [] 1) 1) 1 := by decide

/-- SUBSCRIBE, SUBSCRIBE, then connection_lost (one unsubscribe for the one set element): a stale entry
    for a connection whose `server` is now None — the next publisher on the channel runs
    `dest.connection_lost(None)` on it and crashes with AttributeError in its own callback (C10) -/
theorem d2_stale_entry : legacyUnsub (legacySub (legacySub [2] 1) 1) 1 = [2, 1] := by decide

/-- pinned gauge arithmetic: `unsubscribe` decremented unconditionally -/
def legacyGaugeAfterUnsubOfNeverSubscribed : Int := 0 - 1
theorem d2_negative_gauge : legacyGaugeAfterUnsubOfNeverSubscribed < 0 := by decide

end Hpfeeds.Legacy

namespace Hpfeeds.Legacy

/-! ### D3 — env store before "fix: env authenticator grants no channel when PUBCHANS/SUBCHANS is unset or
    empty" (commit f9b4812): `get_key(ident, 'pubchans', '').split(',')`. -/

def legacySplitComma (s : Bytes) : List Bytes := s.splitOn 44

/-- an identity with only a SECRET was granted the channel named '' -/
theorem d3_empty_grant : ([] : Bytes) ∈ legacySplitComma [] := by decide

end Hpfeeds.Legacy

namespace Hpfeeds.Legacy
open Hpfeeds Extracted

/-! ### D4 — blocking thread session before "fix: blocking ClientSession writes nothing before OP_AUTH and
    resubscribes once a connection is ready" (commit a2cc5f5): `Reactor._connect` set `when_connected` right
    after the TCP connect, and `ClientSession.subscribe/publish` put their frame into the reactor's outbox
    unconditionally. -/
namespace D4
open Hpfeeds.BlkSession

def legacyStep (cfg : Cfg) (s : State) : Ev → State × List Out
  | .connect => let r := step cfg s .connect; ({ r.1 with ready := r.1.live }, r.2)
  | .wCheck t =>
    match s.thr t with
    | .captured _ f =>
      ({ s with thr := fun u => if u = t then .midPut s.gen else s.thr u,
                items := s.items ++ [f], mid := s.mid + 1, enq := s.enq ++ [f] }, [])
    | _ => (s, [])
  | e => step cfg s e

def legacyRun (cfg : Cfg) (es : List Ev) : State × List Out :=
  es.foldl (fun acc e => let r := legacyStep cfg acc.1 e; (r.1, acc.2 ++ r.2)) ({}, [])

def exCfg : Cfg := { ident := [109], secret := [115], H := id }

/-- start(); subscribe('c') before OP_INFO arrives: the OP_SUBSCRIBE is on the wire although no OP_INFO was
    received (`nonce = none`) — the negation of C11.Blk.nothing_before_info, observed on real sockets as
    "broker sees opcodes [4, 4, 2]" (findings/d4_blocking_session_real_sockets.py) -/
theorem d4_write_before_auth :
    (legacyRun exCfg [.connect, .wBegin 1 (.sub [99]), .wCheck 1, .wWake 1, .sel (.accept 100)]).1.nonce = none ∧
    (legacyRun exCfg [.connect, .wBegin 1 (.sub [99]), .wCheck 1, .wWake 1, .sel (.accept 100)]).1.wire =
      subFrame exCfg [99] := by decide +kernel

/-- the repaired model on the same events: nothing on the wire -/
theorem d4_fixed : (run exCfg [.connect, .wBegin 1 (.sub [99]), .wCheck 1, .wWake 1, .sel (.accept 100)]).1.wire = [] := by
  decide +kernel
end D4

/-! ### D9 — blocking `Client` before "fix: Client.publish resubscribes after it had to reconnect" (commit
    56caa82): `publish()` on a send failure called `tryconnect()` and returned. -/
namespace D9
open Hpfeeds.BlkClient

def legacyStep (cfg : Cfg) (s : State) (e : Ev) : State × List Out :=
  match s.pc, e with
  | .authSend (.pub k) rand, .sendOk =>
    let s1 := { s with sent := s.sent ++ [authFrame cfg rand], nonce := some rand, pc := .idle }
    let r := afterPub cfg s1 k          -- back in publish()'s caller: no `_subscribe()`
    (r.1, .wrote s.nsock (authFrame cfg rand) :: r.2)
  | _, _ => step cfg s e

def legacyRun (cfg : Cfg) (es : List Ev) : State × List Out :=
  es.foldl (fun acc e => let r := legacyStep cfg acc.1 e; (r.1, acc.2 ++ r.2)) ({}, [])

/-- message_callback publishes a reply when the payload starts with 'P' -/
def exCfg : Cfg := { ident := [109], secret := [115], H := id,
                     react := fun m => match m.2.2 with | 80 :: r => [.pub [114] r] | _ => [] }
def exInfo (a : UInt8) : Bytes := [0,0,0,12,1,2,104,112,a,8,7,6]
def exPub : Bytes := [0,0,0,10,3,1,97,1,99,80]
def exEvs : List Ev :=
  [.new, .connOk, .data (exInfo 9), .sendOk, .sub [99], .run, .sendOk, .data exPub, .sockErr,
   .connOk, .data (exInfo 5), .sendOk]

/-- run() with a subscription; the callback's publish() fails, reconnects and authenticates — and run() is back
    in recv() on a socket on which only OP_AUTH was ever sent although the application wants channel "c":
    the negation of C11's "Client.run then sends OP_SUBSCRIBE for exactly the channels the application wants"
    on that connection (real sockets: findings/d9_client_publish_reconnect_no_resubscribe.py) -/
theorem d9_not_resubscribed :
    (legacyRun exCfg exEvs).1.pc = .runRecv ∧ (legacyRun exCfg exEvs).1.subs = [[99]] ∧
    (legacyRun exCfg exEvs).1.sent = [authFrame exCfg [5,8,7,6]] := by decide +kernel

/-- the repaired model on the same events: it is sending the OP_SUBSCRIBE -/
theorem d9_fixed : (run exCfg exEvs).1.pc = .subSend [99] [] (.pub (.cb [])) := by decide +kernel
end D9


end Hpfeeds.Legacy
