/-
  C17 — credential stores return exactly what was configured, for exactly those idents.
  The proof part is deliberately thin (the stores are table look-ups); the claim about hostile strings
  reaching the real sqlite / json / os.environ engines is carried by the correspondence run, which builds
  the REAL stores from generated tables (DESIGN.md section 7).  `up` is Python's `str.upper` on the UTF-8
  bytes — an arbitrary function here.
-/
import Hpfeeds.Model.Stores
import Hpfeeds.Lemmas.StoresEnv
namespace Hpfeeds.C17
open Hpfeeds Hpfeeds.Stores

/-- memory / JSON / SQLite: a configured identity gets exactly its record — for ARBITRARY ident strings
    (quotes, SQL, separators, path characters, NUL: the look-up key is compared as a whole string) -/
theorem table_configured (t : Table) (i : Bytes) (r : Rec) (hnd : (t.map (·.1)).Nodup) (h : (i, r) ∈ t) :
    tableLookup t i = some r :=
  lookup_eq_some h fun _ he hk => congrArg Prod.snd (eq_of_nodup_map hnd he h hk)

/-- … and nothing for any other string -/
theorem table_unknown (t : Table) (i : Bytes) (h : i ∉ t.map (·.1)) : tableLookup t i = none :=
  lookup_eq_none fun _ he hk => h (hk ▸ List.mem_map_of_mem he)

def IsAttr (a : Bytes) : Prop := a = SECRET ∨ a = OWNER ∨ a = SUBCHANS ∨ a = PUBCHANS

/-- the environment variable names of two (identity, attribute) pairs coincide only if the identities
    agree after upper-casing and the attributes are the same: one identity's variables can never be
    read as another's, whatever characters (underscores included) the identities contain -/
theorem env_key_injective (up : Bytes → Bytes) (i1 i2 a1 a2 : Bytes) (h1 : IsAttr a1) (h2 : IsAttr a2)
    (h : envKey up i1 a1 = envKey up i2 a2) : up i1 = up i2 ∧ a1 = a2 :=
  key_inj up i1 i2 a1 a2 h1 h2 h

/-- the environment store answers only when the SECRET variable of that (upper-cased) identity is set
    and non-empty, and then returns exactly the values of that identity's four variables -/
theorem env_lookup_spec (up : Bytes → Bytes) (env : Bytes → Option Bytes) (i : Bytes) :
    (envLookup up env i = none ↔ (env (envKey up i SECRET) = none ∨ env (envKey up i SECRET) = some [])) ∧
    (∀ r, envLookup up env i = some r →
      env (envKey up i SECRET) = some r.secret ∧
      r.owner = (env (envKey up i OWNER)).getD i ∧
      r.subchans = splitComma ((env (envKey up i SUBCHANS)).getD []) ∧
      r.pubchans = splitComma ((env (envKey up i PUBCHANS)).getD [])) := by
  unfold envLookup
  cases hs : env (envKey up i SECRET) with
  | none => simp
  | some sec =>
    cases sec with
    | nil => simp
    | cons b sec =>
      simp only [reduceCtorEq, or_self, Option.some.injEq]
      refine ⟨by simp, fun r hr => ?_⟩
      rw [← hr]; exact ⟨rfl, rfl, rfl, rfl⟩

/-- the environment store matches identities case-insensitively BY CONSTRUCTION: two look-up strings with
    the same upper-casing read the same variables -/
theorem env_case_insensitive (up : Bytes → Bytes) (env : Bytes → Option Bytes) (i j : Bytes) (h : up i = up j) :
    (envLookup up env i).map (fun r => (r.secret, r.subchans, r.pubchans)) =
    (envLookup up env j).map (fun r => (r.secret, r.subchans, r.pubchans)) := by
  unfold envLookup envKey
  rw [h]
  cases env (prefixHp ++ underscore :: (up j ++ underscore :: SECRET)) with
  | none => rfl
  | some sec => cases sec <;> rfl

/-- an identity configured without channels is granted no channel at all (fix D3: `''.split(',')` is
    `['']`, which granted the channel named '') -/
theorem no_channels_no_grant (up : Bytes → Bytes) (env : Bytes → Option Bytes) (i ch : Bytes)
    (hp : env (envKey up i PUBCHANS) = none ∨ env (envKey up i PUBCHANS) = some [])
    (hs : env (envKey up i SUBCHANS) = none ∨ env (envKey up i SUBCHANS) = some []) :
    mayPublish (envLookup up env i) ch = false ∧ maySubscribe (envLookup up env i) ch = false := by
  cases hl : envLookup up env i with
  | none => exact ⟨rfl, rfl⟩
  | some r =>
    obtain ⟨-, -, hsub, hpub⟩ := (env_lookup_spec up env i).2 r hl
    have unset : ∀ o : Option Bytes, o = none ∨ o = some [] → o.getD [] = [] := by
      rintro _ (rfl | rfl) <;> rfl
    rw [unset _ hp] at hpub
    rw [unset _ hs] at hsub
    simp only [mayPublish, maySubscribe, hsub, hpub]
    exact ⟨rfl, rfl⟩

/-- **the environment store, end to end.**  Write a user table into an environment the way an operator does
    (`envOf`: HPFEEDS_<IDENT>_SECRET / _OWNER / _SUBCHANS / _PUBCHANS, channel lists joined with commas) — with
    identities distinct after upper-casing, non-empty secrets, and channel names that are non-empty and contain
    no comma — and EVERY look-up string that upper-cases like a configured identity gets back exactly that
    identity's record: secret, owner, and both channel lists, element for element and in order (whatever else
    the identities, secrets and names contain: quotes, underscores, `=`-free hostile text, other identities'
    names as prefixes or suffixes) -/
theorem env_configured (up : Bytes → Bytes) (t : Table) (i j : Bytes) (r : Rec)
    (hnd : (t.map (fun e => up e.1)).Nodup) (h : (i, r) ∈ t) (hj : up j = up i)
    (hsec : r.secret ≠ [])
    (hsub : ∀ c ∈ r.subchans, c ≠ [] ∧ (44 : UInt8) ∉ c) (hpub : ∀ c ∈ r.pubchans, c ≠ [] ∧ (44 : UInt8) ∉ c) :
    envLookup up (envOf up t) j = some r := by
  have hit := fun a ha => envOf_hit up t i j r a ha hnd h hj
  unfold envLookup
  rw [hit SECRET (.inl rfl), hit OWNER (.inr (.inl rfl)), hit SUBCHANS (.inr (.inr (.inl rfl))),
    hit PUBCHANS (.inr (.inr (.inr rfl))), valOf_secret, valOf_owner, valOf_subchans, valOf_pubchans]
  cases hs : r.secret with
  | nil => exact absurd hs hsec
  | cons b sec =>
    simp only [Option.getD_some, split_join _ hsub, split_join _ hpub]
    cases r; simp_all

/-- … and a look-up string that upper-cases like NO configured identity gets nothing -/
theorem env_unknown (up : Bytes → Bytes) (t : Table) (j : Bytes) (h : up j ∉ t.map (fun e => up e.1)) :
    envLookup up (envOf up t) j = none := by
  unfold envLookup
  rw [envOf_miss up t j SECRET (Or.inl rfl) h]

/-- the split never yields an empty channel name -/
theorem split_no_empty (s : Bytes) : ([] : Bytes) ∉ splitComma s := by
  unfold splitComma; simp

theorem multi_unknown (stores : List (Bytes → Option Rec)) (i : Bytes) (h : ∀ s ∈ stores, s i = none) :
    multiLookup stores i = none := by
  unfold multiLookup; rw [List.findSome?_eq_none_iff]; exact h

/-- the stacked store answers with the first member that knows the identity -/
theorem multi_first (pre : List (Bytes → Option Rec)) (st : Bytes → Option Rec) (post : List (Bytes → Option Rec))
    (i : Bytes) (r : Rec) (hpre : ∀ s ∈ pre, s i = none) (h : st i = some r) :
    multiLookup (pre ++ st :: post) i = some r := by
  rw [multiLookup, List.findSome?_append, ← multiLookup, multi_unknown pre i hpre, List.findSome?_cons, h]
  rfl

/-! non-vacuity -/
example : tableLookup [([39, 59], ⟨[1], [2], [], []⟩), ([97], ⟨[3], [4], [[99]], []⟩)] [39, 59] = some ⟨[1], [2], [], []⟩ := by
  decide
example : tableLookup [([97], ⟨[3], [4], [[99]], []⟩)] [97, 0] = none := by decide
example : splitComma [97, 44, 44, 98] = [[97], [98]] := by decide
example : envKey id [88, 95, 79, 87, 78, 69, 82] SECRET ≠ envKey id [88] OWNER := by decide
/-- `env_configured` is not vacuous: identities `a_b` and `a` (one a prefix of the other, with an underscore),
    two channels -/
example : envLookup id (envOf id [([97, 95, 98], ⟨[1], [2], [[99], [100, 101]], []⟩), ([97], ⟨[3], [4], [], [[102]]⟩)]) [97, 95, 98]
    = some ⟨[1], [2], [[99], [100, 101]], []⟩ := by decide +kernel

end Hpfeeds.C17
