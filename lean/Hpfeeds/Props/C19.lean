/-
  C19 — exported connection and subscription gauges equal reality.
  `cnt s p` = the number of connections ever made whose record satisfies `p` now.  All theorems are for
  every reachable state of every history (any connects, auths, re-auths, redundant (un)subscribes,
  rejected requests, disconnects at any point).
-/
import Hpfeeds.Lemmas.BrokerGauge
import Hpfeeds.Lemmas.BrokerSession
import Hpfeeds.Lemmas.BrokerDeliv
import Hpfeeds.Props.C10
import Hpfeeds.Legacy
namespace Hpfeeds.C19
open Hpfeeds Hpfeeds.Broker Extracted

/-- The connected-clients gauge equals the number of connections the broker has registered … -/
theorem connections_gauge (cfg : Cfg) (es : List Event) : (run cfg es).gConns = cnt (run cfg es) pReg :=
  (gauge_run cfg es).conns   -- `cnt` is a natural number: the offset `+ 0` of `Gauge` computes away

/-- … and at a quiescent moment (no connection in the window between close and connection_lost)
    "registered" is exactly "open": registered ⇒ not gone, and not registered ⇒ gone. -/
theorem quiescent_registered_iff_open (cfg : Cfg) (es : List Event)
    (hq : ∀ c x, (run cfg es).conn c = some x → x.closing = true → x.gone = true)
    (c : Nat) (x : Conn) (hx : (run cfg es).conn c = some x) :
    x.registered = true ↔ x.gone = false := by
  constructor
  · intro hr
    cases hg : x.gone with
    | false => rfl
    | true => have := ((reg_run cfg es).gone_closed c x hx hg).2; rw [hr] at this; cases this
  · intro hg
    cases hr : x.registered with
    | true => rfl
    | false =>
      have := hq c x hx (uc_run cfg es c x hx hr)
      rw [hg] at this; cases this

/-- Per identity AND channel (no single-authentication assumption is needed after fix D7): the
    subscription gauge equals the number of connections authenticated as that identity that hold a
    subscription to that channel.  In particular no gauge is ever negative. -/
theorem subscription_gauge (cfg : Cfg) (es : List Event) (l : Option Bytes) (ch : Bytes) :
    (run cfg es).gSubs l ch = cnt (run cfg es) (pSub l ch) ∧ 0 ≤ (run cfg es).gSubs l ch := by
  have := (gauge_run cfg es).subs l ch
  exact ⟨this, this ▸ Int.natCast_nonneg _⟩

/-- For each channel the subscription gauges ADD UP to the number of connections currently subscribed
    to it (summed over any duplicate-free list of identity labels covering its subscribers). -/
theorem channel_total (cfg : Cfg) (es : List Event) (ch : Bytes) (L : List (Option Bytes)) (hL : L.Nodup)
    (hcover : ∀ c x, (run cfg es).conn c = some x → ch ∈ x.active → x.ak ∈ L) :
    (L.map (fun l => (run cfg es).gSubs l ch)).sum = cnt (run cfg es) (fun x => decide (ch ∈ x.active)) :=
  gauge_channel_total (gauge_run cfg es) ch L hL hcover

/-- All gauges return to zero once every client has gone (more generally: once the broker has
    unregistered every connection). -/
theorem all_zero_when_gone (cfg : Cfg) (es : List Event)
    (hall : ∀ c x, (run cfg es).conn c = some x → x.registered = false) :
    (run cfg es).gConns = 0 ∧ ∀ l ch, (run cfg es).gSubs l ch = 0 := by
  refine ⟨?_, fun l ch => ?_⟩
  · rw [connections_gauge]; exact cnt_eq_zero fun c x hx => hall c x hx
  · rw [(subscription_gauge cfg es l ch).1]
    refine cnt_eq_zero fun c x hx => ?_
    simp [pSub, (reg_run cfg es).unreg_empty c x hx (hall c x hx)]

/-- The connections-made counter counts every connection exactly once, and the connections-lost counter
    (per identity label) counts exactly the connections the broker has unregistered, each once, under
    the label it had at that moment (`lostAs` is set by `connection_lost`, nowhere else). -/
theorem made_and_lost_once (cfg : Cfg) (es : List Event) :
    (run cfg es).cMade = (run cfg es).ids.length ∧ (run cfg es).ids.Nodup ∧
    (∀ l, ((run cfg es).cLost l : Int) = cnt (run cfg es) (pLost l)) ∧
    (∀ c x, (run cfg es).conn c = some x → (x.registered = true ↔ x.lostAs = none)) := by
  have g := gauge_run cfg es
  exact ⟨g.made, (reg_run cfg es).ids_nodup, g.lost, g.lostAs⟩

/-- A redundant SUBSCRIBE, or an UNSUBSCRIBE of a channel that is not subscribed, moves no gauge. -/
theorem redundant_requests_move_nothing (s : State) (c : Nat) (ch : Bytes) (x : Conn) (hx : s.conn c = some x) :
    (ch ∈ x.active → (subscribe s c ch).gSubs = s.gSubs) ∧
    (ch ∉ x.active → (unsubscribe s c ch).gSubs = s.gSubs) :=
  ⟨fun h => by rw [subscribe_noop hx h], fun h => by rw [unsubscribe_noop hx h]⟩

/-! The pinned tree violated this (fix D2: unconditional decrement; fix D7: re-authentication). -/
example := @Legacy.d2_negative_gauge

/-! non-vacuity (kernel-evaluated): subscribe twice, re-authenticate as another identity, unsubscribe a
    channel never subscribed, disconnect: the gauges moved with the connection and are all zero at the end. -/
def exRowA : Row := ⟨[115], [111], [[99]], [[99]]⟩
def exCfg : Cfg := ⟨[104], .sync (fun i => if i = [97] ∨ i = [98] then some exRowA else none), id⟩
def exAuth (i : UInt8) : Bytes := [0,0,0,12,2,1,i,1,2,3,4,115]
def exH : List Event :=
  [.connect 1 [1,2,3,4], .data 1 (exAuth 97 ++ [0,0,0,8,4,1,97,99] ++ [0,0,0,8,4,1,97,99]),
   .data 1 (exAuth 98)]
example : ((run exCfg exH).gSubs (some [97]) [99], (run exCfg exH).gSubs (some [98]) [99], (run exCfg exH).gConns) =
    (0, 1, 1) := by decide +kernel
example : ((run exCfg (exH ++ [.data 1 [0,0,0,8,5,1,98,122], .lost 1])).gSubs (some [97]) [99],
    (run exCfg (exH ++ [.data 1 [0,0,0,8,5,1,98,122], .lost 1])).gSubs (some [98]) [99],
    (run exCfg (exH ++ [.data 1 [0,0,0,8,5,1,98,122], .lost 1])).gConns,
    (run exCfg (exH ++ [.data 1 [0,0,0,8,5,1,98,122], .lost 1])).cLost (some [98])) = (0, 0, 0, 1) := by
  decide +kernel

/-! ### … also when subscribers' transports refuse writes (Model/BrokerFault.lean)

A refused write makes the broker close that transport; closing moves no gauge (the counts move at `connection_lost`, as
everywhere else).  So the equalities hold after EVERY history with write faults — any fault set and any store
contents per event. -/

theorem gauges_under_write_faults (cfg : Cfg) (es : List (Store × List Nat × Event)) (l : Option Bytes) (ch : Bytes) :
    (runF cfg es).gConns = cnt (runF cfg es) pReg ∧
    ((runF cfg es).gSubs l ch = cnt (runF cfg es) (pSub l ch) ∧ 0 ≤ (runF cfg es).gSubs l ch) ∧
    (runF cfg es).cMade = (runF cfg es).ids.length ∧
    ((runF cfg es).cLost l : Int) = cnt (runF cfg es) (pLost l) := by
  have g := gauge_runF cfg es
  exact ⟨g.conns, ⟨g.subs l ch, g.subs l ch ▸ Int.natCast_nonneg _⟩, g.made, g.lost l⟩

theorem channel_total_under_write_faults (cfg : Cfg) (es : List (Store × List Nat × Event)) (ch : Bytes)
    (L : List (Option Bytes)) (hL : L.Nodup)
    (hcover : ∀ c x, (runF cfg es).conn c = some x → ch ∈ x.active → x.ak ∈ L) :
    (L.map (fun l => (runF cfg es).gSubs l ch)).sum = cnt (runF cfg es) (fun x => decide (ch ∈ x.active)) :=
  gauge_channel_total (gauge_runF cfg es) ch L hL hcover

/-! non-vacuity (kernel-evaluated) on C10's faulty history: two connections registered and subscribed to "c" as "a"; the
    transport of connection 2 refuses the publish and is closed by the broker - still registered until its loss arrives,
    so both gauges read 2, as the theorem says -/
example : (runF C01.exCfg C10.exFaulty).gConns = 2 ∧ (runF C01.exCfg C10.exFaulty).gSubs (some [97]) [99] = 2 ∧
    (runF C01.exCfg C10.exFaulty).cMade = 2 := by decide +kernel

end Hpfeeds.C19
