/-
  C06 — stream decoding is independent of how the bytes are chunked.
-/
import Hpfeeds.Lemmas.Wire
namespace Hpfeeds.C06
open Hpfeeds Extracted

/-- For every sequence of well-formed frames, every trailing incomplete frame `t`, and EVERY way of
    cutting the concatenation into chunks (any number, any sizes, cuts inside headers, empty chunks),
    feeding the chunks yields exactly that frame sequence, in order, each once, and leaves exactly `t`
    buffered. -/
theorem feed_chunks (fs : List Frame) (t : Bytes) (chunks : List Bytes)
    (hf : ∀ f ∈ fs, f.WF) (ht : header t = .wait)
    (hc : chunks.flatten = fs.flatMap enc ++ t) :
    feedAll [] chunks = (fs, t, none) := by
  obtain ⟨h1, h2, h3⟩ := feedAll_eq_drain [] chunks rfl
  rw [List.nil_append, hc, drain_frames_wait hf ht] at h1 h2 h3
  exact Prod.ext h1 (Prod.ext (h3 h2) h2)

/-- Chunking independence in general (arbitrary bytes, error cases included): the frames yielded and
    the error raised are those of decoding the concatenation in one go. -/
theorem feed_eq_drain_flatten (chunks : List Bytes) :
    (feedAll [] chunks).1 = (drain chunks.flatten).1 ∧
    (feedAll [] chunks).2.2 = (drain chunks.flatten).2.2 ∧
    ((feedAll [] chunks).2.2 = none → (feedAll [] chunks).2.1 = (drain chunks.flatten).2.1) :=
  feedAll_eq_drain [] chunks rfl

/-- Promptness: after any prefix of the stream has arrived — the frames `pre` completely, plus a strict
    prefix `u` of the next frame `f` — exactly `pre` has been emitted (every frame whose last byte has
    arrived, and none earlier), and exactly `u` is buffered. -/
theorem prompt (pre : List Frame) (f : Frame) (u v : Bytes) (chunks : List Bytes)
    (hpre : ∀ g ∈ pre, g.WF) (hf : f.WF) (huv : u ++ v = enc f) (hv : v ≠ [])
    (hc : chunks.flatten = pre.flatMap enc ++ u) :
    feedAll [] chunks = (pre, u, none) :=
  feed_chunks pre u chunks hpre (header_prefix_wait f hf u v huv hv) hc

/-- Whatever has been fed without error, the bytes are accounted for exactly: emitted frames followed by
    the buffered rest re-assemble the input, and the rest is an incomplete frame. -/
theorem accounted (chunks : List Bytes) (h : (feedAll [] chunks).2.2 = none) :
    (feedAll [] chunks).1.flatMap enc ++ (feedAll [] chunks).2.1 = chunks.flatten ∧
    header (feedAll [] chunks).2.1 = .wait := by
  obtain ⟨h1, h2, h3⟩ := feed_eq_drain_flatten chunks
  have hs := drain_spec chunks.flatten
  rw [h1, h3 h]
  rw [h2] at h
  rw [h] at hs
  exact ⟨hs.1.symm, hs.2.2⟩

/-! non-vacuity: the hypotheses are met by concrete frames with a cut inside a header, an empty chunk
    and a trailing partial frame (obtained from the theorems, so that their hypotheses are seen to be met) -/
example : feedAll [] [[0,0,0], [7,3,1,65], [], [0,0,0,6,4,9,0,0]] =
    ([⟨3, [1,65]⟩, ⟨4, [9]⟩], [0,0], none) :=
  feed_chunks [⟨3, [1,65]⟩, ⟨4, [9]⟩] [0,0] _ (by decide) (by decide) (by decide)
example : feedAll [] [[0,0,0,7,3], [1,65,0,0,0]] = ([⟨3, [1,65]⟩], [0,0,0], none) :=
  prompt [⟨3, [1,65]⟩] ⟨4, [9]⟩ [0,0,0] [6,4,9] _ (by decide) (by decide) (by decide) (by decide) (by decide)

end Hpfeeds.C06
