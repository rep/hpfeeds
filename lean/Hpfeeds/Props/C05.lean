/-
  C05 — every message builder is inverted exactly by the decoder.
-/
import Hpfeeds.Lemmas.Wire
namespace Hpfeeds.C05
open Hpfeeds Extracted

/-- in-range fields: text fields are UTF-8 (every Python `str` encodes to such bytes), ident / channel /
    name at most 255 bytes where a one-byte length prefix is used, and the whole frame within the
    decoder's limit for its opcode -/
def InRange : Msg → Prop
  | .error t => validUtf8 t ∧ 5 + t.length ≤ limit OP_ERROR
  | .info n r => validUtf8 n ∧ n.length ≤ 255 ∧ 5 + (1 + n.length + r.length) ≤ limit OP_INFO
  | .auth i d => validUtf8 i ∧ i.length ≤ 255 ∧ 5 + (1 + i.length + d.length) ≤ limit OP_AUTH
  | .publish i c p => validUtf8 i ∧ i.length ≤ 255 ∧ validUtf8 c ∧ c.length ≤ 255 ∧
      5 + (1 + i.length + (1 + c.length) + p.length) ≤ limit OP_PUBLISH
  | .subscribe i c => validUtf8 i ∧ i.length ≤ 255 ∧ validUtf8 c ∧
      5 + (1 + i.length + c.length) ≤ limit OP_SUBSCRIBE
  | .unsubscribe i c => validUtf8 i ∧ i.length ≤ 255 ∧ validUtf8 c ∧
      5 + (1 + i.length + c.length) ≤ limit OP_UNSUBSCRIBE

/-- the frame-level half of the round trip, for any opcode and body within the limits: the six message kinds
    differ only in what `build` and `read` do with the fields (`hb`, `hr`) -/
theorem roundtrip_of {m : Msg} {op : Nat} {body : Bytes} (h0 : OP_ERROR ≤ op) (h1 : op ≤ OP_UNSUBSCRIBE)
    (hl : 5 + body.length ≤ limit op) (hb : build m = msghdr op body)
    (hr : read ⟨UInt8.ofNat op, body⟩ = some (.ok m)) :
    ∃ f : Frame, build m = some (enc f) ∧ f.WF ∧ (enc f).take 4 = be32 (enc f).length ∧
      drain (enc f) = ([f], [], none) ∧ read f = some (.ok m) := by
  have := limit_lt op
  have h256 : op < 256 := Nat.lt_of_le_of_lt h1 (by decide)
  have wf : (⟨UInt8.ofNat op, body⟩ : Frame).WF := by
    have e : (UInt8.ofNat op).toNat = op := by simp only [UInt8.toNat_ofNat']; omega
    simp only [Frame.WF, e]; exact ⟨h0, h1, hl⟩
  exact ⟨_, hb.trans (if_pos ⟨by omega, h256⟩), wf, take4_enc _, drain_enc _ wf, hr⟩

/-- The round trip, for every opcode and every in-range message: the builder succeeds; its output is
    one well-formed frame whose 4-byte length header equals the number of bytes produced; the stream
    decoder yields exactly that frame and nothing is left over; the matching reader returns exactly the
    original fields. -/
theorem roundtrip (m : Msg) (h : InRange m) :
    ∃ f : Frame, build m = some (enc f) ∧ f.WF ∧
      (enc f).take 4 = be32 (enc f).length ∧
      drain (enc f) = ([f], [], none) ∧
      read f = some (.ok m) := by
  cases m with
  | error t =>
    obtain ⟨hv, hl⟩ := h
    exact roundtrip_of (op := OP_ERROR) (by decide) (by decide) hl rfl
      (by simp [read, forceStr, hv, OP_ERROR, bind, Except.bind])
  | info n r =>
    obtain ⟨hv, hn, hl⟩ := h
    refine roundtrip_of (op := OP_INFO) (body := UInt8.ofNat n.length :: n ++ r) (by decide) (by decide) ?_ ?_ ?_
    · simp only [List.length_cons, List.length_append]; omega
    · simp only [build, strpack8_eq n hn, Option.bind_eq_bind, Option.bind_some]
    · simp [read, OP_ERROR, OP_INFO, strunpack8_pack n r hn hv, bind, Except.bind]
  | auth i d =>
    obtain ⟨hv, hn, hl⟩ := h
    refine roundtrip_of (op := OP_AUTH) (body := UInt8.ofNat i.length :: i ++ d) (by decide) (by decide) ?_ ?_ ?_
    · simp only [List.length_cons, List.length_append]; omega
    · simp only [build, strpack8_eq i hn, Option.bind_eq_bind, Option.bind_some]
    · simp [read, OP_ERROR, OP_INFO, OP_AUTH, strunpack8_pack i d hn hv, bind, Except.bind]
  | publish i c p =>
    obtain ⟨hvi, hni, hvc, hnc, hl⟩ := h
    have h1 := strunpack8_pack i (UInt8.ofNat c.length :: (c ++ p)) hni hvi
    refine roundtrip_of (op := OP_PUBLISH) (body := UInt8.ofNat i.length :: i ++ (UInt8.ofNat c.length :: c) ++ p)
      (by decide) (by decide) ?_ ?_ ?_
    · simp only [List.length_cons, List.length_append]; omega
    · simp only [build, strpack8_eq i hni, strpack8_eq c hnc, Option.bind_eq_bind, Option.bind_some]
    · simp [read, OP_ERROR, OP_INFO, OP_AUTH, OP_PUBLISH, h1, strunpack8_pack c p hnc hvc, bind, Except.bind]
  | subscribe i c =>
    obtain ⟨hvi, hni, hvc, hl⟩ := h
    refine roundtrip_of (op := OP_SUBSCRIBE) (body := UInt8.ofNat i.length :: i ++ c) (by decide) (by decide) ?_ ?_ ?_
    · simp only [List.length_cons, List.length_append]; omega
    · simp only [build, strpack8_eq i hni, Option.bind_eq_bind, Option.bind_some]
    · simp [read, OP_ERROR, OP_INFO, OP_AUTH, OP_PUBLISH, OP_SUBSCRIBE, strunpack8_pack i c hni hvi, forceStr, hvc,
        bind, Except.bind]
  | unsubscribe i c =>
    obtain ⟨hvi, hni, hvc, hl⟩ := h
    refine roundtrip_of (op := OP_UNSUBSCRIBE) (body := UInt8.ofNat i.length :: i ++ c) (by decide) (by decide) ?_ ?_ ?_
    · simp only [List.length_cons, List.length_append]; omega
    · simp only [build, strpack8_eq i hni, Option.bind_eq_bind, Option.bind_some]
    · simp [read, OP_ERROR, OP_INFO, OP_AUTH, OP_PUBLISH, OP_SUBSCRIBE, OP_UNSUBSCRIBE, strunpack8_pack i c hni hvi,
        forceStr, hvc, bind, Except.bind]

/-! Obligations on the extracted limit table: everything the library itself builds from in-range
    fields is accepted by its own decoder (a limit lowered below what the builders emit breaks these). -/

/-- every OP_AUTH the builders can produce (ident ≤ 255 bytes, 20-byte SHA-1 digest) is in range -/
theorem auth_fits (i d : Bytes) (hv : validUtf8 i = true) (hi : i.length ≤ 255) (hd : d.length = 20) :
    InRange (.auth i d) := by
  have : 281 ≤ limit OP_AUTH := by decide
  exact ⟨hv, hi, by omega⟩

/-- every OP_INFO the broker can produce (name ≤ 255 bytes, nonce up to 20 bytes; it sends 4) -/
theorem info_fits (n r : Bytes) (hv : validUtf8 n = true) (hn : n.length ≤ 255) (hr : r.length ≤ 20) :
    InRange (.info n r) := by
  have : 281 ≤ limit OP_INFO := by decide
  exact ⟨hv, hn, by omega⟩

/-- every OP_PUBLISH with in-range ident and channel and a payload that, with them, makes a frame of
    at most `5 + MAXBUF` bytes — up to the exact frame limit -/
theorem publish_fits (i c p : Bytes) (hvi : validUtf8 i = true) (hi : i.length ≤ 255)
    (hvc : validUtf8 c = true) (hc : c.length ≤ 255)
    (hp : 1 + i.length + (1 + c.length) + p.length ≤ MAXBUF) : InRange (.publish i c p) := by
  have : 5 + MAXBUF ≤ limit OP_PUBLISH := by decide
  exact ⟨hvi, hi, hvc, hc, by omega⟩

theorem error_fits (t : Bytes) (hv : validUtf8 t = true) (ht : t.length ≤ MAXBUF) : InRange (.error t) := by
  have : 5 + MAXBUF ≤ limit OP_ERROR := by decide
  exact ⟨hv, by omega⟩

theorem subscribe_fits (i c : Bytes) (hvi : validUtf8 i = true) (hi : i.length ≤ 255)
    (hvc : validUtf8 c = true) (hc : c.length ≤ 255) :
    InRange (.subscribe i c) ∧ InRange (.unsubscribe i c) := by
  have h1 : 516 ≤ limit OP_SUBSCRIBE := by decide
  have h2 : 516 ≤ limit OP_UNSUBSCRIBE := by decide
  exact ⟨⟨hvi, hi, hvc, by omega⟩, ⟨hvi, hi, hvc, by omega⟩⟩

/-- the announced length is read back as the same number by the decoder's signed 32-bit parse -/
theorem header_reads_length (f : Frame) (hf : f.WF) (rest : Bytes) :
    header (enc f ++ rest) = .ok (enc f).length f.op := by
  rw [enc_length]; exact header_enc_append f rest hf

/-! non-vacuity: a 255-byte ident of 2-byte code points + 1, bytes that look like length prefixes, an
    empty channel, a payload at the exact limit -/
example : InRange (.auth (0x41 :: (List.replicate 127 [0xc3, 0xa9]).flatten) (List.replicate 20 0xff)) :=
  -- 'A' followed by 127 times 'é': valid piece by piece, so no need to run the validator over 255 bytes
  auth_fits _ _
    (validUtf8_append (a := [0x41]) (b := (List.replicate 127 [0xc3, 0xa9]).flatten) (by decide)
      (validUtf8_flatten fun _ hx => List.eq_of_mem_replicate hx ▸ by decide))
    (by decide +kernel) List.length_replicate
example : InRange (.publish [3, 0, 0] [] [0, 0, 0, 5, 3]) := by
  refine publish_fits _ _ _ (by decide +kernel) (by decide) (by decide +kernel) (by decide) (by decide +kernel)
example (p : Bytes) (hp : p.length = MAXBUF - 2) : InRange (.publish [] [] p) :=
  publish_fits _ _ _ (by decide +kernel) (by decide) (by decide +kernel) (by decide) (by simp [hp, MAXBUF])

end Hpfeeds.C05
