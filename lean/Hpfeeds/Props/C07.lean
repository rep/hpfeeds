/-
  C07 — arbitrary bytes: the decoder terminates, stays bounded, fails only cleanly.
  `drain` (Model/Wire.lean) is a total function defined WITHOUT fuel: its termination proof is the
  first obligation of this property (it needs `5 ≤ ml` from `header`, i.e. fix D1).
-/
import Hpfeeds.Lemmas.Wire
import Hpfeeds.Legacy
namespace Hpfeeds.C07
open Hpfeeds Extracted

/-- Every frame yielded from ANY byte string has one of the six opcodes and a declared length between 5
    and that opcode's limit; declared length = bytes consumed. -/
theorem frames_wf (buf : Bytes) (f : Frame) (hf : f ∈ (drain buf).1) :
    OP_ERROR ≤ f.op.toNat ∧ f.op.toNat ≤ OP_UNSUBSCRIBE ∧
    5 ≤ (enc f).length ∧ (enc f).length ≤ limit f.op.toNat ∧
    (enc f).take 4 = be32 (enc f).length := by
  obtain ⟨h0, h1, h2⟩ := (drain_spec buf).2.1 f hf
  rw [enc_length]
  exact ⟨h0, h1, Nat.le_add_right .., h2, enc_length f ▸ take4_enc f⟩

/-- The bytes are consumed exactly: yielded frames, re-encoded, followed by what stays buffered, are the
    input. Nothing is skipped, invented or duplicated. -/
theorem consumed (buf : Bytes) : (drain buf).1.flatMap enc ++ (drain buf).2.1 = buf :=
  (drain_spec buf).1.symm

/-- The three outcomes: either the decoder waits (the rest is an incomplete frame) or it raises, and it
    raises exactly when the rest starts with a complete header that announces an unknown opcode, a
    length above the limit, or a length below 5. -/
theorem waits_or_rejects (buf : Bytes) :
    ((drain buf).2.2 = none ∧ header (drain buf).2.1 = .wait) ∨
    (∃ e, (drain buf).2.2 = some e ∧ header (drain buf).2.1 = .bad e) := by
  have h := (drain_spec buf).2.2
  cases he : (drain buf).2.2 with
  | none => rw [he] at h; exact Or.inl ⟨rfl, h⟩
  | some e => rw [he] at h; exact Or.inr ⟨e, rfl, h⟩

/-- Rejection depends only on the five header bytes (so it happens as soon as the header is complete,
    whatever follows or does not follow it) and happens exactly for the three kinds of bad header. -/
theorem reject_iff (b0 b1 b2 b3 op : UInt8) (x : Bytes) :
    ((∃ e, header (b0 :: b1 :: b2 :: b3 :: op :: x) = .bad e) ↔
      (op.toNat < OP_ERROR ∨ op.toNat > OP_UNSUBSCRIBE) ∨
      toSigned (u32 b0 b1 b2 b3) > (limit op.toNat : Int) ∨ toSigned (u32 b0 b1 b2 b3) < 5) ∧
    (∀ e, header (b0 :: b1 :: b2 :: b3 :: op :: x) = .bad e ↔ header [b0, b1, b2, b3, op] = .bad e) := by
  -- `header_eq`: whether a complete header is rejected is decided by `announced`, which does not see `x`
  constructor
  · simp only [header_eq]
    exact announced_error_iff
  · exact fun e => by rw [header_eq, header_eq]

/-- Bounded buffering: after any error-free drain less than one maximal frame stays buffered; hence,
    fed chunk by chunk, the buffer never exceeds one maximal frame plus the current chunk. -/
theorem bounded (buf : Bytes) (h : (drain buf).2.2 = none) : (drain buf).2.1.length < 5 + MAXBUF := by
  rcases waits_or_rejects buf with ⟨_, hw⟩ | ⟨e, he, _⟩
  · exact wait_bounded hw
  · rw [h] at he; cases he

theorem bounded_chunks (chunks : List Bytes) (c : Bytes) (h : (feedAll [] chunks).2.2 = none) :
    ((feedAll [] chunks).2.1 ++ c).length < 5 + MAXBUF + c.length := by
  obtain ⟨_, h2, h3⟩ := feedAll_eq_drain [] chunks rfl
  rw [List.length_append, h3 h]
  have := bounded ([] ++ chunks.flatten) (by rw [← h2]; exact h)
  omega

/-- For any bytes in any chunking the outcome (frames and error) is that of the unchunked input. -/
theorem any_chunking (chunks : List Bytes) :
    (feedAll [] chunks).1 = (drain chunks.flatten).1 ∧ (feedAll [] chunks).2.2 = (drain chunks.flatten).2.2 := by
  have := feedAll_eq_drain [] chunks rfl
  exact ⟨this.1, this.2.1⟩

/-- **A rejection is final.**  Once draining has raised for a header, draining again — at once, or after ANY further
    bytes have been fed — yields no frame and raises the same exception again: the rejected header is never
    accepted later and nothing behind it is ever decoded (so nothing is buffered towards its announced length). -/
theorem rejection_is_final (buf more : Bytes) (e : Err) (h : (drain buf).2.2 = some e) :
    drain ((drain buf).2.1 ++ more) = ([], (drain buf).2.1 ++ more, some e) := by
  have hs := (drain_spec buf).2.2
  rw [h] at hs
  exact drain_rejected hs more

/-! The pinned decoder (before fix D1) violated termination: kernel-checked witnesses. -/
example (x : Bytes) := Legacy.d1_no_progress x
example (x : Bytes) := Legacy.d1_fixed x

/-! non-vacuity -/
example : header [0, 0, 0, 4, 3] = .bad .tooSmall := by decide +kernel
example : header [0, 0, 0, 5, 6] = .bad .unknownOp := by decide +kernel
example : header [0, 16, 0, 6, 3, 9, 9] = .bad .tooBig := by decide +kernel
example : header [0, 16, 0, 5, 3, 9, 9] = .wait := by decide +kernel
example : header [0, 0, 0, 5, 3, 9, 9] = .ok 5 3 := by decide +kernel
/-- a good frame, then an undefined opcode: rejected, and still rejected after the announced body has arrived -/
example : drain ((drain [0,0,0,5,3, 0,0,0,7,6]).2.1 ++ [1, 2]) = ([], [0,0,0,7,6,1,2], some .unknownOp) := by decide +kernel

end Hpfeeds.C07
