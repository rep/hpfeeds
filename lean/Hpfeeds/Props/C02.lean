/-
  C02 — nothing is acted on before a valid OP_AUTH for this connection's own nonce.
  `H` (SHA-1 in the code) is an arbitrary function `Bytes → Bytes`; the nonce is an input of `connect`.
  The clause "the nonce is not constant across connections" is about `os.urandom` and cannot be expressed
  in any model: it is decided by the check's monitor on the implementation only (DESIGN.md section 7).
-/
import Hpfeeds.Lemmas.BrokerSession
import Hpfeeds.Props.C14
namespace Hpfeeds.C02
open Hpfeeds Hpfeeds.Broker Extracted

/-! Every run-level statement below is proved for `runS` — a history in which every event comes with the credential
    store as it is at that moment — and read off for `run`, the history under one store (`run_eq_runS`). -/

theorem Dyn.first_write_is_info (cfg : Cfg) (es : List (Store × Event)) (c : Nat) (x : Conn)
    (hx : (runS cfg es).conn c = some x) :
    ∃ t rest, x.out = (t, .write ⟨UInt8.ofNat OP_INFO, pack8 cfg.name ++ x.nonce⟩) :: rest :=
  allRec_runS (fun _ _ _ => infoFirst_step cfg) (infoFirst_fresh cfg) es c x hx

theorem Dyn.preauth_inert (cfg : Cfg) (es : List (Store × Event)) (c : Nat) (x : Conn)
    (hx : (runS cfg es).conn c = some x) (hak : x.ak = none) :
    x.active = [] ∧ x.granted = [] ∧ x.pubchans = [] ∧ x.subchans = [] ∧
    (∀ ch, c ∉ (runS cfg es).subs ch) ∧ (∀ a ∈ (runS cfg es).accepted, c ∉ a.recips) := by
  obtain ⟨a1, a2, _, a4, a5⟩ := (auth_runS cfg es c x hx).pre hak
  refine ⟨a1, a2, a4, a5, fun ch hm => ?_, fun a ha hm => ?_⟩
  · have := ((reg_runS cfg es).mem_subs hx ch).mp hm
    rw [a1] at this; cases this
  · obtain ⟨y, hy, hk⟩ := recipAuth_runS cfg es a ha c hm
    rw [hx] at hy; cases hy; rw [hak] at hk; cases hk

theorem Dyn.preauth_receives_nothing (cfg : Cfg) (es : List (Store × Event)) (c : Nat) (x : Conn)
    (hx : (runS cfg es).conn c = some x) (hak : x.ak = none) : pubFrames x.out = [] := by
  rw [(deliv_runS cfg es).log c x hx]
  exact List.filterMap_eq_nil_iff.mpr fun a ha => if_neg ((Dyn.preauth_inert cfg es c x hx hak).2.2.2.2.2 a ha)

theorem Dyn.accepted_from_authenticated (cfg : Cfg) (es : List (Store × Event)) (a : Accepted)
    (ha : a ∈ (runS cfg es).accepted) : a.srcAk = some a.ident :=
  ((deliv_runS cfg es).acc a ha).ident

theorem Dyn.authenticated_by_digest (cfg : Cfg) (es : List (Store × Event)) (c : Nat) (x : Conn) (i : Bytes)
    (hx : (runS cfg es).conn c = some x) (hak : x.ak = some i) :
    ∃ d row, x.authed.getLast? = some (i, d, row) ∧ cfg.H (x.nonce ++ row.secret) = d ∧
      x.pubchans = row.pubchans ∧ x.subchans = row.subchans := by
  have k := auth_runS cfg es c x hx
  obtain ⟨d, row, hl, hp, hs⟩ := k.post i hak
  exact ⟨d, row, hl, k.digests (i, d, row) (List.mem_of_getLast? hl), hp, hs⟩

/-- The broker's first bytes on every connection, in every history: one OP_INFO carrying its name and
    the nonce of THAT connection (everything else it ever writes comes after). -/
theorem first_write_is_info (cfg : Cfg) (es : List Event) (c : Nat) (x : Conn)
    (hx : (run cfg es).conn c = some x) :
    ∃ t rest, x.out = (t, .write ⟨UInt8.ofNat OP_INFO, pack8 cfg.name ++ x.nonce⟩) :: rest :=
  Dyn.first_write_is_info cfg _ c x (run_eq_runS cfg es ▸ hx)

/-- In every reachable state a connection that has not authenticated holds no subscription, has been
    granted nothing, has no ACL, is in no channel's registry, and has never received a message. -/
theorem preauth_inert (cfg : Cfg) (es : List Event) (c : Nat) (x : Conn)
    (hx : (run cfg es).conn c = some x) (hak : x.ak = none) :
    x.active = [] ∧ x.granted = [] ∧ x.pubchans = [] ∧ x.subchans = [] ∧
    (∀ ch, c ∉ (run cfg es).subs ch) ∧ (∀ a ∈ (run cfg es).accepted, c ∉ a.recips) := by
  rw [run_eq_runS] at hx ⊢
  exact Dyn.preauth_inert cfg _ c x hx hak

/-- ... hence it has never received an OP_PUBLISH. -/
theorem preauth_receives_nothing (cfg : Cfg) (es : List Event) (c : Nat) (x : Conn)
    (hx : (run cfg es).conn c = some x) (hak : x.ak = none) : pubFrames x.out = [] :=
  Dyn.preauth_receives_nothing cfg _ c x (run_eq_runS cfg es ▸ hx) hak

/-- Nothing a connection sends is published before it authenticates: every accepted publish, in every
    history, came from a connection that was authenticated (as the ident the publish names) at that
    moment. -/
theorem accepted_from_authenticated (cfg : Cfg) (es : List Event) (a : Accepted)
    (ha : a ∈ (run cfg es).accepted) : a.srcAk = some a.ident :=
  Dyn.accepted_from_authenticated cfg _ a (run_eq_runS cfg es ▸ ha)

/-- An authenticated connection got there by presenting, in an OP_AUTH, a digest equal to
    H(its own nonce ++ the secret of the row the store returned for the claimed ident); its ACLs are that
    row's.  (`authed` records every accepted OP_AUTH: ident, digest, row; `setAuth` is the only writer.) -/
theorem authenticated_by_digest (cfg : Cfg) (es : List Event) (c : Nat) (x : Conn) (i : Bytes)
    (hx : (run cfg es).conn c = some x) (hak : x.ak = some i) :
    ∃ d row, x.authed.getLast? = some (i, d, row) ∧ cfg.H (x.nonce ++ row.secret) = d ∧
      x.pubchans = row.pubchans ∧ x.subchans = row.subchans :=
  Dyn.authenticated_by_digest cfg _ c x i (run_eq_runS cfg es ▸ hx) hak

/-- Decision logic of an OP_AUTH against a synchronous store, in ANY state: accepted IFF the store has
    a row for the claimed ident and the digest equals H(nonce ++ that row's secret); otherwise the whole
    effect is OP_ERROR + close (identity, ACLs, registry, accepted log unchanged). -/
theorem auth_iff (cfg : Cfg) (s : State) (c : Nat) (x : Conn) (f : Frame) (ident digest : Bytes)
    (tbl : Bytes → Option Row)
    (hx : s.conn c = some x) (hreg : x.registered = true) (hstore : cfg.store = .sync tbl)
    (hf : read f = some (.ok (.auth ident digest))) :
    ((∃ row, tbl ident = some row ∧ cfg.H (x.nonce ++ row.secret) = digest) →
      ∃ row, tbl ident = some row ∧ messageReceived cfg s c f =
        (logAct (setAuth s c ident digest row) c (.setLimits (limit OP_PUBLISH * highWaterFactor)), .cont)) ∧
    (¬ (∃ row, tbl ident = some row ∧ cfg.H (x.nonce ++ row.secret) = digest) →
      messageReceived cfg s c f = (errorClose s c, .cont)) := by
  constructor
  · rintro ⟨row, ht, hok⟩
    exact ⟨row, ht, C14.sync_auth_success cfg s c x f ident digest tbl row hx hreg hstore hf ht hok⟩
  · intro hno
    refine (mr_auth hx hf).trans ?_
    rw [hreg, hstore]
    simp only [Bool.not_true, Bool.false_eq_true, if_false]
    cases ht : tbl ident with
    | none => simp [authenticate, authOk]
    | some row =>
      have : ¬ cfg.H (x.nonce ++ row.secret) = digest := fun h => hno ⟨row, ht, h⟩
      simp [authenticate, authOk, this]

/-- the digest variants of the property: a digest of the wrong length can never match a hash that
    always returns 20 bytes (prefix of the right digest, empty, 19 or 21 bytes) -/
theorem wrong_length_never_matches (H : Bytes → Bytes) (h20 : ∀ b, (H b).length = 20) (nonce secret digest : Bytes)
    (hl : digest.length ≠ 20) : H (nonce ++ secret) ≠ digest := by
  intro h; apply hl; rw [← h]; exact h20 _

/-- a digest computed for another connection's nonce (or with another identity's secret) is rejected
    unless the hash collides on the two inputs: if it was accepted on this connection, the two hash values
    are equal -/
theorem foreign_digest_needs_collision (H : Bytes → Bytes) (nonce nonce' secret : Bytes)
    (hacc : H (nonce ++ secret) = H (nonce' ++ secret)) (hne : nonce ≠ nonce') :
    ∃ a b, a ≠ b ∧ H a = H b := by
  refine ⟨nonce ++ secret, nonce' ++ secret, ?_, hacc⟩
  intro h; exact hne (List.append_cancel_right h)

/-- Any well-formed non-AUTH first frame: OP_ERROR + close, nothing else (C02 uses `Rejected` from
    Lemmas/BrokerFrame: accepted log, registry, gauges, all other connections unchanged). -/
theorem non_auth_first_frame (cfg : Cfg) (s : State) (c : Nat) (x : Conn) (f : Frame)
    (hx : s.conn c = some x) (hak : x.ak = none) (hop : f.op.toNat ≠ OP_AUTH) :
    messageReceived cfg s c f = (errorClose s c, .cont) ∧ Rejected s (errorClose s c) c :=
  ⟨mr_preauth hx hak hop, errorClose_rejected s c⟩

/-- A malformed frame (bad header): just a disconnect — `close`, no OP_ERROR, and the loop stops. -/
theorem bad_header_just_disconnects (cfg : Cfg) (s : State) (c : Nat) (buf : Bytes) (e : Err)
    (hh : header buf = .bad e) : loop cfg c s buf = (closeT s c, buf, .cont) :=
  loop_bad hh

/-! ### the credential store may change while the broker runs

"Until the connection presents an OP_AUTH whose digest equals SHA1(nonce ‖ the secret STORED for the claimed
ident)": stores are edited while brokers run (a secret is rotated, an identity revoked, the JSON file reloaded —
C18).  The run-level theorems above are proved for such histories (`runS`), and the decision for each OP_AUTH frame is
`auth_iff`, which is stated for an ARBITRARY state and the table passed to THAT step — so nothing remembered from an
earlier store (a cached row, an earlier verdict, an earlier session of the same identity) can influence it. -/

/-- **rotation / revocation takes effect at once**: whatever happened before (any state `s`: the identity may
    have been looked up, accepted or refused any number of times under earlier store contents), an OP_AUTH
    that names an identity the store does not hold NOW, or whose digest is not H(nonce ‖ the secret held NOW),
    is answered with OP_ERROR + close and changes nothing else -/
theorem Dyn.stale_credentials_rejected (cfg : Cfg) (s : State) (c : Nat) (x : Conn) (f : Frame) (ident digest : Bytes)
    (tbl : Bytes → Option Row)
    (hx : s.conn c = some x) (hreg : x.registered = true)
    (hf : read f = some (.ok (.auth ident digest)))
    (hstale : ∀ row, tbl ident = some row → cfg.H (x.nonce ++ row.secret) ≠ digest) :
    messageReceived (cfg.withStore (.sync tbl)) s c f = (errorClose s c, .cont) := by
  have h := (auth_iff (cfg.withStore (.sync tbl)) s c x f ident digest tbl hx hreg rfl hf).2
  apply h
  rintro ⟨row, hr, hd⟩
  exact hstale row hr hd

/-! non-vacuity (kernel-evaluated, hash := id): SUBSCRIBE before AUTH → ERROR + close, no subscription;
    AUTH with the digest of another nonce → ERROR + close; the right digest → authenticated. -/
def exRow : Row := ⟨[115], [111], [[99]], [[99]]⟩
def exCfg : Cfg := ⟨[104], .sync (fun i => if i = [97] then some exRow else none), id⟩
example : ((run exCfg [.connect 1 [1,2,3,4], .data 1 [0,0,0,8,4,1,97,99]]).conn 1).map
    (fun y => (y.ak, y.active, y.closing, y.out.map (·.2) |>.drop 1)) =
    some (none, [], true, [.write errFrame, .close]) := by decide +kernel
example : ((run exCfg [.connect 1 [1,2,3,4], .data 1 [0,0,0,12,2,1,97,9,9,9,9,115]]).conn 1).map
    (fun y => (y.ak, y.closing)) = some (none, true) := by decide +kernel
example : ((run exCfg [.connect 1 [1,2,3,4], .data 1 [0,0,0,12,2,1,97,1,2,3,4,115]]).conn 1).map
    (fun y => (y.ak, y.closing, y.pubchans)) = some (some [97], false, [[99]]) := by decide +kernel

/-- a store change inside a history: connection 1 authenticates with secret `s`; the secret is rotated to `t`;
    connection 2 presenting the OLD secret over its own nonce is refused, the NEW one is accepted -/
def exRow' : Row := ⟨[116], [111], [[99]], [[99]]⟩
def st0 : Store := .sync (fun i => if i = [97] then some exRow else none)
def st1 : Store := .sync (fun i => if i = [97] then some exRow' else none)
example : (fun s : State => ((s.conn 1).map (·.ak), (s.conn 2).map (fun y => (y.ak, y.closing)), (s.conn 3).map (fun y => (y.ak, y.closing))))
    (runS exCfg [(st0, .connect 1 [1,2,3,4]), (st0, .data 1 [0,0,0,12,2,1,97,1,2,3,4,115]),
                 (st1, .connect 2 [5,6,7,8]), (st1, .data 2 [0,0,0,12,2,1,97,5,6,7,8,115]),
                 (st1, .connect 3 [9,9,9,9]), (st1, .data 3 [0,0,0,12,2,1,97,9,9,9,9,116])]) =
    (some (some [97]), some (none, true), some (some [97], false)) := by decide +kernel

end Hpfeeds.C02
