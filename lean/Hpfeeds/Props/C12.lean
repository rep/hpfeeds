/-
  C12 — clients hand every received message to the application once, in order.
-/
import Hpfeeds.Lemmas.Aio.Inv
import Hpfeeds.Lemmas.BlkSession
import Hpfeeds.Lemmas.BlkClient
import Hpfeeds.Lemmas.Aio.Obs
import Hpfeeds.Lemmas.BlkDecoder
import Hpfeeds.Lemmas.BlkClientPrompt
import Hpfeeds.Lemmas.BlkClientSteps
namespace Hpfeeds.C12
open Hpfeeds Extracted

/-! ## asyncio ClientSession (read() and async iteration both go through `read_queue.get()`) -/
namespace Aio
open Hpfeeds.AioClient

/-- After ANY event sequence (any chunking of the inbound bytes, any interleaving of read() calls with
    arrivals): the messages handed to the application so far, followed by the ones still queued, are
    exactly the OP_PUBLISH frames dispatched so far, in order — nothing lost, nothing duplicated,
    nothing reordered, ident / channel / payload as decoded from the frame.  A read() issued early is
    completed by the next arrival (a waiting reader implies an empty queue). -/
theorem handed_in_order (cfg : Cfg) (es : List Ev) :
    (run cfg es).1.handedLog ++ (run cfg es).1.queue = (run cfg es).1.allProcessed.filterMap pubOf ∧
    ((run cfg es).1.readers > 0 → (run cfg es).1.queue = []) := by
  obtain ⟨_, _, fifo, idle, recv⟩ := run_inv cfg es
  exact ⟨by rw [← fifo, recv], idle⟩

/-- The dispatched frames of a connection are exactly the frames contained in the bytes received on it:
    re-encoded and followed by the buffered rest they ARE those bytes (with C06/C07: the frame sequence
    does not depend on how the bytes were split across reads). -/
theorem frames_are_the_bytes (cfg : Cfg) (es : List Ev) (c : Conn) (hc : (run cfg es).1.conn = some c) :
    c.inbound = c.processed.flatMap enc ++ c.buf :=
  ((run_inv cfg es).1 c hc).1.bytes

/-- The observable form.  Over ANY event sequence, the values carried by the `handed` OUTPUTS — which are what
    the correspondence check compares with the values the real read() calls return — are exactly the log of
    `handed_in_order`: a prefix, in order, once each, of the OP_PUBLISH frames dispatched. -/
theorem handed_is_observable (cfg : Cfg) (es : List Ev) :
    (run cfg es).2.filterMap handedOf = (run cfg es).1.handedLog ∧
    (run cfg es).2.filterMap handedOf <+: (run cfg es).1.allProcessed.filterMap pubOf := by
  refine ⟨run_handed cfg es, ?_⟩
  rw [run_handed, ← (handed_in_order cfg es).1]
  exact List.prefix_append _ _

/-- **Nothing is withheld** ("EVERY OP_PUBLISH the broker sends is handed"): after ANY event sequence, if the
    bytes received on a connection the client has not dropped are well-formed frames `fs` followed by an
    incomplete rest `t` — however they were split across reads, several frames in one read included — then the
    frames dispatched on it are EXACTLY `fs` (so by `handed_in_order` their OP_PUBLISHes are handed or queued)
    and exactly `t` is still buffered: no complete frame waits in the parser for more traffic. -/
theorem nothing_withheld (cfg : Cfg) (es : List Ev) (c : Conn) (hc : (run cfg es).1.conn = some c)
    (hcl : c.closing = false) (fs : List Frame) (t : Bytes) (hf : ∀ f ∈ fs, f.WF) (ht : header t = .wait)
    (hin : c.inbound = fs.flatMap enc ++ t) : c.processed = fs ∧ c.buf = t := by
  have d := drained cfg es c hc hcl
  rw [hin, drain_frames_wait hf ht] at d
  cases d
  exact ⟨rfl, rfl⟩

/-- … in its plain form: the buffered rest of a live connection never begins a complete frame -/
theorem buffer_is_incomplete (cfg : Cfg) (es : List Ev) (c : Conn) (hc : (run cfg es).1.conn = some c)
    (hcl : c.closing = false) : header c.buf = .wait :=
  ((run_inv cfg es).1 c hc).2 hcl

/-! non-vacuity (kernel-evaluated): two PUBLISH frames split at an arbitrary byte, one early read() -/
def exCfg : Cfg := { ident := [109], secret := [115], H := id }
def exInfo : Bytes := [0,0,0,12,1,2,104,112,9,8,7,6]
def exPub (x : UInt8) : Bytes := [0,0,0,10,3,1,97,1,99,x]
example : (run exCfg [.read, .accept, .data (exInfo ++ (exPub 1).take 3), .data ((exPub 1).drop 3 ++ exPub 2), .read]).1.handedLog =
    [([97],[99],[1]), ([97],[99],[2])] := by decide +kernel
/-- three frames coalesced into ONE read (OP_INFO and two PUBLISHes) plus the first bytes of a fourth: all three are
    dispatched at once, both messages reach the two reads, the partial frame stays buffered -/
example : (fun r : State × List Out => (r.1.handedLog, r.1.conn.map (fun c => (c.processed.length, c.buf, c.closing))))
    (run exCfg [.accept, .data (exInfo ++ exPub 1 ++ exPub 2 ++ (exPub 3).take 4), .read, .read]) =
    ([([97],[99],[1]), ([97],[99],[2])], some (3, [0,0,0,10], false)) := by decide +kernel

end Aio
/-! ## blocking thread session: read() of the session -/
namespace Blk
open Hpfeeds.BlkSession

/-- After ANY event sequence: what read() has returned so far, followed by what is still in read_queue, is
    exactly the OP_PUBLISH frames dispatched so far, over all connections, in order, once each, fields as
    decoded. -/
theorem handed_in_order (cfg : Cfg) (es : List Ev) :
    (run cfg es).1.handed ++ (run cfg es).1.rq = (run cfg es).1.allProcessed.filterMap pubOf := by
  rw [← (run_inv cfg es).r.fifo, (run_inv cfg es).r.pubs]

/-- The frames dispatched on the current connection are exactly the frames contained in the bytes recv()
    returned on it (any chunking: recv(1024) slices included): re-encoded and followed by the unpacker's
    buffered rest they ARE those bytes. -/
theorem frames_are_the_bytes (cfg : Cfg) (es : List Ev) :
    (run cfg es).1.inbound = (run cfg es).1.processed.flatMap enc ++ (run cfg es).1.ubuf :=
  (dinv_run cfg es).bytes

/-- **Nothing is withheld** (blocking thread session): after ANY event sequence, while the reactor is alive and the
    protocol has not closed the socket, if the bytes `recv()` returned on the current connection are well-formed
    frames `fs` followed by an incomplete rest `t` (any slicing, `recv(1024)` included), the frames dispatched
    are EXACTLY `fs` and exactly `t` is left in the unpacker. -/
theorem nothing_withheld (cfg : Cfg) (es : List Ev)
    (hd : (run cfg es).1.dead = false) (hc : (run cfg es).1.sockClosed = false)
    (fs : List Frame) (t : Bytes) (hf : ∀ f ∈ fs, f.WF) (ht : header t = .wait)
    (hin : (run cfg es).1.inbound = fs.flatMap enc ++ t) :
    (run cfg es).1.processed = fs ∧ (run cfg es).1.ubuf = t := by
  have d := (dinv_run cfg es).drained hd hc
  rw [hin, drain_frames_wait hf ht] at d
  cases d
  exact ⟨rfl, rfl⟩

/-- the observable form (as for the asyncio session) -/
theorem handed_is_observable (cfg : Cfg) (es : List Ev) :
    (run cfg es).2.filterMap handedOf = (run cfg es).1.handed ∧
    (run cfg es).2.filterMap handedOf <+: (run cfg es).1.allProcessed.filterMap pubOf := by
  refine ⟨(obs_run cfg es).echo, ?_⟩
  rw [(obs_run cfg es).echo, ← handed_in_order cfg es]
  exact List.prefix_append _ _

def exCfg : Cfg := { ident := [109], secret := [115], H := id }
def exInfo : Bytes := [0,0,0,12,1,2,104,112,9,8,7,6]
def exPub (x : UInt8) : Bytes := [0,0,0,10,3,1,97,1,99,x]
example : (run exCfg [.connect, .inb (exInfo ++ (exPub 1).take 3), .sel .again, .inb ((exPub 1).drop 3 ++ exPub 2),
    .read, .sel .again, .read, .read]).1.handed = [([97],[99],[1]), ([97],[99],[2])] := by decide +kernel

end Blk
/-! ## blocking Client.run: message_callback / error_callback -/
namespace Client
open Hpfeeds.BlkClient

/-- After ANY event sequence, whatever the callbacks do (stop, subscribe, publish — with reconnections
    inside them): the callbacks made so far are exactly, in order and once each, the ones owed for the
    frames run() has taken from the unpacker: message_callback(ident, channel, payload) for every
    OP_PUBLISH, error_callback(text) for every OP_ERROR, nothing for anything else. -/
theorem callbacks_in_order (cfg : Cfg) (es : List Ev) :
    (run cfg es).1.delivered = (run cfg es).1.runFrames.filterMap cbOf :=
  (run_inv cfg es).dinv.cbs

/-- … and the frames taken from the unpacker since its last reset (= since the current connection was
    made) are exactly the frames contained in the bytes fed to it, however they were split across recv()
    calls: re-encoded and followed by the buffered rest they ARE those bytes.  (The first of them is the
    OP_INFO that do_auth took; frames that arrived in the same recv() are dispatched by run().) -/
theorem frames_are_the_bytes (cfg : Cfg) (es : List Ev) :
    (run cfg es).1.fed = (run cfg es).1.popped.flatMap enc ++ (run cfg es).1.ubuf :=
  (run_inv cfg es).dinv.bytes

/-- The observable form: over ANY event sequence the callbacks that appear in the OUTPUT — what the
    correspondence check compares with the real message_callback / error_callback invocations — are exactly
    the ones owed for the frames run() took, in order, once each. -/
theorem callbacks_are_observable (cfg : Cfg) (es : List Ev) :
    (run cfg es).2.filterMap cbOut = (run cfg es).1.runFrames.filterMap cbOf := by
  rw [(run_inv cfg es).cbs, callbacks_in_order]

/-- what a callback is owed for: the fields are the ones the frame carries -/
theorem callback_carries (f : Frame) (i c p : Bytes) (h : cbOf f = some (.msg (i, c, p))) :
    read f = some (.ok (.publish i c p)) := by
  unfold cbOf at h
  split at h
  · split at h
    · rename_i i' c' p' hr; cases h; exact hr
    · cases h
  · split at h
    · split at h <;> cases h
    · cases h

/-! non-vacuity (kernel-evaluated): a PUBLISH parked behind OP_INFO in the first recv(), one split over two
    reads, an OP_ERROR: three callbacks, in order -/
def exCfg : Cfg := { ident := [109], secret := [115], H := id }
def exInfo : Bytes := [0,0,0,12,1,2,104,112,9,8,7,6]
def exPub (x : UInt8) : Bytes := [0,0,0,10,3,1,97,1,99,x]
def exErr : Bytes := [0,0,0,7,0,110,111]
example : (run exCfg [.new, .connOk, .data (exInfo ++ exPub 1), .sendOk, .run, .data ((exPub 2).take 4),
    .data ((exPub 2).drop 4 ++ exErr)]).1.delivered =
    [.msg ([97],[99],[1]), .msg ([97],[99],[2]), .err [110,111]] := by decide +kernel
/-- the two situations of `back_at_recv_drained`: right after run() was called a PUBLISH that came with OP_INFO is
    still parked (loop top); after the next read — here a timeout — run() is back in recv() with nothing parked -/
example : (fun s : State => (s.pc, s.ubuf.length, s.delivered.length))
    (run exCfg [.new, .connOk, .data (exInfo ++ exPub 1), .sendOk, .run]).1 = (.runRecv, 10, 0) := by decide +kernel
example : (fun s : State => (s.pc, s.ubuf.length, s.delivered.length))
    (run exCfg [.new, .connOk, .data (exInfo ++ exPub 1), .sendOk, .run, .timeout]).1 = (.runRecv, 0, 1) := by decide +kernel

/-- **Nothing is withheld** (`Client.run`).  After ANY event sequence `es` and ANY further event `e` that leaves the
    client blocked in run()'s recv(): the unpacker holds no complete frame (every complete frame received has had
    its callback) — unless run() got there from the TOP of its outer loop (it was just called, or has just
    (re)connected and sent its subscriptions: frames that arrived in the same recv() as OP_INFO are parked until the
    next read completes, the model reproduces that) or was in recv() already and nothing was fed.  This covers the
    return from a callback's publish(), also when that publish had to reconnect and resubscribe. -/
theorem back_at_recv_drained (cfg : Cfg) (es : List Ev) (e : Ev)
    (h : (step cfg (run cfg es).1 e).1.pc = .runRecv) :
    header (step cfg (run cfg es).1 e).1.ubuf = .wait ∨ LoopTop (run cfg es).1 ∨
      ((run cfg es).1.pc = .runRecv ∧ (step cfg (run cfg es).1 e).1.ubuf = (run cfg es).1.ubuf) :=
  recv_entry cfg _ e h

/-- in particular: a read that brings data, or times out, and leaves run() in recv() has drained the unpacker -/
theorem read_drains (cfg : Cfg) (s : State) (e : Ev) (hs : s.pc = .runRecv) (he : (∃ b, b ≠ [] ∧ e = .data b) ∨ e = .timeout)
    (h : (step cfg s e).1.pc = .runRecv) : header (step cfg s e).1.ubuf = .wait := by
  rcases he with ⟨b, hb, rfl⟩ | rfl
  · rw [step_recv_data cfg hs, if_neg hb] at h ⊢
    exact afterFrames_recv_drained cfg _ h
  · rw [step_recv_timeout cfg hs] at h ⊢
    exact afterFrames_recv_drained cfg _ h

end Client
end Hpfeeds.C12
