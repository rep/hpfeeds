/-
  C03 — delivered messages carry the sender's authenticated ident and an allowed channel.
-/
import Hpfeeds.Lemmas.BrokerFrame
import Hpfeeds.Lemmas.BrokerDeliv
namespace Hpfeeds.C03
open Hpfeeds Hpfeeds.Broker Extracted

/-! The two run-level statements are proved for a credential store that changes while the broker runs (`runS`:
    rotation, revocation, edited channel lists — the publish ACL is the one of the row the connection authenticated
    with) and read off for `run`, the history under one store (`run_eq_runS`). -/
theorem Dyn.accepted_sound (cfg : Cfg) (es : List (Store × Event)) (a : Accepted) (ha : a ∈ (runS cfg es).accepted) :
    a.srcAk = some a.ident ∧ a.chan ∈ a.srcPubchans :=
  ⟨((deliv_runS cfg es).acc a ha).ident, ((deliv_runS cfg es).acc a ha).chan⟩

theorem Dyn.every_delivery_sound (cfg : Cfg) (es : List (Store × Event)) (d : Nat) (y : Conn) (f : Frame)
    (hy : (runS cfg es).conn d = some y) (hf : f ∈ pubFrames y.out) :
    ∃ a ∈ (runS cfg es).accepted, f = pubFrame a.ident a.chan a.payload ∧ d ∈ a.recips ∧
      a.srcAk = some a.ident ∧ a.chan ∈ a.srcPubchans := by
  rw [(deliv_runS cfg es).log d y hy] at hf
  obtain ⟨a, ha, h⟩ := List.mem_filterMap.mp hf
  split at h
  · cases h; exact ⟨a, ha, rfl, ‹_›, Dyn.accepted_sound cfg es a ha⟩
  · cases h

/-- Every accepted publish, in every history: the ident it names is the identity its originating
    connection was authenticated as at that moment, and the channel was on that identity's publish
    list (`srcAk`, `srcPubchans` are snapshots of the sender's record taken by `Broker.publish`). -/
theorem accepted_sound (cfg : Cfg) (es : List Event) (a : Accepted) (ha : a ∈ (run cfg es).accepted) :
    a.srcAk = some a.ident ∧ a.chan ∈ a.srcPubchans :=
  Dyn.accepted_sound cfg _ a (run_eq_runS cfg es ▸ ha)

/-- Every OP_PUBLISH frame any connection ever received is the frame of such an accepted publish:
    it names the sender's authenticated ident and an allowed channel. -/
theorem every_delivery_sound (cfg : Cfg) (es : List Event) (d : Nat) (y : Conn) (f : Frame)
    (hy : (run cfg es).conn d = some y) (hf : f ∈ pubFrames y.out) :
    ∃ a ∈ (run cfg es).accepted, f = pubFrame a.ident a.chan a.payload ∧ d ∈ a.recips ∧
      a.srcAk = some a.ident ∧ a.chan ∈ a.srcPubchans := by
  rw [run_eq_runS] at hy ⊢
  exact Dyn.every_delivery_sound cfg _ d y f hy hf

/-- A PUBLISH naming another ident (any other string: another real ident, a case variant, a prefix, the
    empty string), or a channel outside the sender's list, in ANY state: the whole effect is OP_ERROR +
    close on the sender — the accepted log, the registry, the gauges and every other connection's record
    (in particular its action log) are unchanged. -/
theorem reject_publish (cfg : Cfg) (s : State) (c : Nat) (x : Conn) (f : Frame) (ident ch p : Bytes)
    (hx : s.conn c = some x) (hauth : x.ak ≠ none)
    (hf : read f = some (.ok (.publish ident ch p)))
    (hbad : some ident ≠ x.ak ∨ ch ∉ x.pubchans) :
    (messageReceived cfg s c f).2 = .cont ∧ Rejected s (messageReceived cfg s c f).1 c := by
  rw [Broker.reject_publish cfg s c x f ident ch p hx hauth hf hbad]
  exact ⟨rfl, errorClose_rejected s c⟩

/-- idents are compared as whole byte strings: a different string is a different ident -/
example (x : Conn) (h : x.ak = some [65, 108]) : some [97, 108] ≠ x.ak := by rw [h]; decide
example (x : Conn) (h : x.ak = some [97, 108]) : some [97] ≠ x.ak := by rw [h]; decide
example (x : Conn) (h : x.ak = some [97, 108]) : some [] ≠ x.ak := by rw [h]; decide

/-! non-vacuity (kernel-evaluated): an authenticated connection publishes under another ident, then a
    third connection's log shows nothing was delivered and the sender got ERROR + close. -/
def exRow : Row := ⟨[115], [111], [[99]], [[99]]⟩
def exCfg : Cfg := ⟨[104], .sync (fun i => if i = [97] then some exRow else none), id⟩
def exAuth (n : Bytes) : Bytes := [0,0,0,12,2,1,97] ++ n ++ [115]
def exSub : Bytes := [0,0,0,8,4,1,97,99]
def exSpoof : Bytes := [0,0,0,10,3,1,98,1,99,7]
def exHistory : List Event :=
  [.connect 1 [1,2,3,4], .connect 2 [5,6,7,8], .data 2 (exAuth [5,6,7,8] ++ exSub),
   .data 1 (exAuth [1,2,3,4]), .data 1 exSpoof]
example : (run exCfg exHistory).accepted.length = 0 ∧
    ((run exCfg exHistory).conn 2).map (fun y => pubFrames y.out) = some [] ∧
    ((run exCfg exHistory).conn 1).map (fun y => (y.closing, y.out.map (·.2) |>.drop 2)) =
      some (true, [.write errFrame, .close]) := by decide +kernel

end Hpfeeds.C03
