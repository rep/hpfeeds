/-
  C11 — clients answer each connection's own challenge first, then resubscribe.
  One section per client.  Application calls are events of the same sequence as the network events, so
  "every sequence of application calls interleaved with connection establishment, OP_INFO arrival and
  connection loss, over any number of reconnections" is the quantifier `∀ es`.
-/
import Hpfeeds.Lemmas.Aio.Inv
import Hpfeeds.Lemmas.Aio.Reconnect
import Hpfeeds.Lemmas.BlkSession
import Hpfeeds.Lemmas.BlkClient
import Hpfeeds.Lemmas.Aio.Obs
import Hpfeeds.Lemmas.BlkDecoder
import Hpfeeds.Lemmas.BlkClientSteps
namespace Hpfeeds.C11
open Hpfeeds Extracted

/-! ## asyncio ClientSession -/
namespace Aio
open Hpfeeds.AioClient

/-- On every connection, after ANY event sequence: as long as the session has not handled that
    connection's OP_INFO, it has written nothing on it. -/
theorem nothing_before_info (cfg : Cfg) (es : List Ev) (c : Conn) (hc : (run cfg es).1.conn = some c)
    (hr : c.ready = false) : c.sent = [] :=
  (((run_inv cfg es).1 c hc).1.ok.quiet hr).1

/-- … and everything it ever wrote on the connection begins with the OP_AUTH computed from the nonce of
    an OP_INFO frame that really arrived on THAT connection (the frame is among the frames decoded from
    the connection's own inbound bytes), followed by one OP_SUBSCRIBE per channel of the set recorded at
    that moment, followed by whatever the application sent later. -/
theorem first_frames (cfg : Cfg) (es : List Ev) (c : Conn) (hc : (run cfg es).1.conn = some c)
    (hr : c.ready = true) :
    ∃ (rand : Bytes) (wanted later : List Bytes) (n : Bytes) (f : Frame),
      c.sent = authFrame cfg rand :: wanted.map (subFrame cfg) ++ later ∧
      f ∈ c.processed ∧ read f = some (.ok (.info n rand)) ∧
      c.inbound = c.processed.flatMap enc ++ c.buf := by
  have k := ((run_inv cfg es).1 c hc).1.ok
  obtain ⟨⟨rand, wanted⟩, hh⟩ := Option.isSome_iff_exists.mp (k.rdy hr)
  obtain ⟨⟨later, hl⟩, f, hf, n, hn⟩ := k.hs rand wanted hh
  exact ⟨rand, wanted, later, n, f, hl, hf, hn, ((run_inv cfg es).1 c hc).1.bytes⟩

/-- The set recorded at that moment is the application's wanted set at that moment: when the OP_INFO of
    a live, not yet ready connection is dispatched, the writes are exactly AUTH(that nonce) followed by
    SUBSCRIBE for `sortBytes subs` — `subs` being the session's set in that very state. -/
theorem handshake_uses_current_set (cfg : Cfg) (s : State) (c : Conn) (f : Frame) (n rand : Bytes)
    (hn : s.conn = some c) (hr : c.ready = false) (hg : c.gone = false) (hf : f.WF)
    (hrd : read f = some (.ok (.info n rand))) :
    (loop cfg s (enc f)).2.1 =
      Out.wrote c.k (authFrame cfg rand) :: (sortBytes s.subs).map (fun ch => Out.wrote c.k (subFrame cfg ch)) :=
  congrArg (·.2.1) (loop_info cfg s c f n rand hn hr hg hf hrd)

/-- The session's set is a function of the application's calls alone — subscribed and not since
    unsubscribed, including calls made while disconnected — and never holds a channel twice; the
    resubscription block has exactly its members, once each. -/
theorem wanted_set (cfg : Cfg) (es : List Ev) :
    (run cfg es).1.subs = wantedOf es ∧ (run cfg es).1.subs.Nodup ∧
    (∀ ch, ch ∈ sortBytes (run cfg es).1.subs ↔ ch ∈ (run cfg es).1.subs) ∧
    (sortBytes (run cfg es).1.subs).length = (run cfg es).1.subs.length :=
  ⟨subs_eq_wantedOf cfg es, subs_nodup cfg es, mem_sortBytes _, length_sortBytes _⟩

/-- ON EVERY CONNECTION THEY MAKE, first or re-connection — the observable form, over the whole history.  For
    ANY event sequence and EVERY connection number `k`, the frames the model's OUTPUT shows written on
    connection `k` — which is what the correspondence check compares with the bytes the real transport `k`
    received — are: nothing, or OP_AUTH(a nonce) followed by one OP_SUBSCRIBE per channel of a set, followed by
    later application frames.  (asyncio session and Twisted service: any `cfg`.) -/
theorem every_connection_observable (cfg : Cfg) (es : List Ev) (k : Nat) :
    wroteOn k (run cfg es).2 = [] ∨
    ∃ (rand : Bytes) (wanted later : List Bytes),
      wroteOn k (run cfg es).2 = authFrame cfg rand :: wanted.map (subFrame cfg) ++ later :=
  every_connection cfg es k

/-! non-vacuity (kernel-evaluated, hash := id): subscribe while disconnected, refused attempt, accepted
    attempt, OP_INFO cut in two chunks: AUTH for that nonce then SUBSCRIBE, nothing before -/
def exCfg : Cfg := { ident := [109], secret := [115], H := id }
def exInfo : Bytes := [0,0,0,12,1,2,104,112,9,8,7,6]
example : (run exCfg [.sub [99], .refuse, .advance 1000, .accept, .data (exInfo.take 7)]).2 =
    [.attempt, .attempt] := by decide +kernel
example : (run exCfg [.sub [99], .refuse, .advance 1000, .accept, .data (exInfo.take 7), .data (exInfo.drop 7)]).2 =
    [.attempt, .attempt, .wrote 1 (authFrame exCfg [9,8,7,6]), .wrote 1 (subFrame exCfg [99])] := by
  decide +kernel

end Aio
/-! ## blocking thread session (hpfeeds/blocking: ClientSession + Reactor + Protocol) -/
namespace Blk
open Hpfeeds.BlkSession

/-- On every connection, after ANY event sequence (any interleaving of the reactor's rounds, the network
    and the three steps of every application thread's subscribe / unsubscribe / publish, over any number
    of reconnections): as long as no OP_INFO of THIS connection has been dispatched, nothing has been put
    into its outbox and nothing has reached its socket. -/
theorem nothing_before_info (cfg : Cfg) (es : List Ev) (h : (run cfg es).1.nonce = none) :
    (run cfg es).1.enq = [] ∧ (run cfg es).1.wire = [] ∧ (run cfg es).1.buffer = [] :=
  (run_inv cfg es).before_info h

/-- … and once one has, the first frame put into the outbox — hence, by C20, the first bytes on the wire —
    is the OP_AUTH computed from the nonce of an OP_INFO frame that is among the frames decoded from the
    bytes received on THAT connection; application frames come after it. -/
theorem first_frame_is_auth (cfg : Cfg) (es : List Ev) (r : Bytes) (h : (run cfg es).1.nonce = some r) :
    (∃ rest, (run cfg es).1.enq = authFrame cfg r :: rest ∧
      (run cfg es).1.wire <+: authFrame cfg r ++ rest.flatten) ∧
    (∃ f ∈ (run cfg es).1.processed, ∃ n, read f = some (.ok (.info n r))) ∧
    (run cfg es).1.inbound = (run cfg es).1.processed.flatMap enc ++ (run cfg es).1.ubuf :=
  ⟨(run_inv cfg es).after_info h, (run_inv cfg es).a.seen r h, (dinv_run cfg es).bytes⟩

/-- an application write is queued only on a connection that is ready, i.e. whose OP_AUTH is already queued -/
theorem ready_means_auth_queued (cfg : Cfg) (es : List Ev) (h : (run cfg es).1.ready = true) :
    ∃ r rest, (run cfg es).1.nonce = some r ∧ (run cfg es).1.enq = authFrame cfg r :: rest ∧
      (run cfg es).1.live = true := by
  obtain ⟨hs, hl⟩ := (run_inv cfg es).a.rdy h
  obtain ⟨r, hr⟩ := Option.isSome_iff_exists.mp hs
  obtain ⟨rest, hrest, _⟩ := (run_inv cfg es).after_info hr
  exact ⟨r, rest, hr, hrest, hl⟩

/-- the observable form over the whole history: for EVERY connection number `k`, the bytes the OUTPUT shows
    accepted by the socket of connection `k` are nothing, or a prefix of a stream that begins with OP_AUTH -/
theorem every_connection_observable (cfg : Cfg) (es : List Ev) (k : Nat) :
    bytesOn k (run cfg es).2 = [] ∨ ∃ (r : Bytes) (tail : Bytes), bytesOn k (run cfg es).2 <+: authFrame cfg r ++ tail :=
  (obs_run cfg es).sent.good k

/-! non-vacuity (kernel-evaluated, hash := id).  A subscribe made before OP_INFO — thread 1 has picked the
    outbox and tests when_connected before the handshake — is not queued; the one that tests it afterwards
    is, behind OP_AUTH and the resubscription.  Thread 3 picked the outbox of connection 1, the connection
    is lost and re-made, and its frame never reaches connection 2. -/
def exCfg : Cfg := { ident := [109], secret := [115], H := id }
def exInfo (a : UInt8) : Bytes := [0,0,0,12,1,2,104,112,a,8,7,6]
example : (run exCfg [.connect, .wBegin 1 (.sub [99]), .wCheck 1, .wBegin 2 (.sub [100]), .inb ((exInfo 9).take 7),
    .sel .again, .inb ((exInfo 9).drop 7), .sel .again, .wCheck 2]).1.enq =
    [authFrame exCfg [9,8,7,6], subFrame exCfg [99], subFrame exCfg [100], subFrame exCfg [100]] := by decide +kernel
example : (run exCfg [.connect, .inb (exInfo 9), .sel .again, .wBegin 3 (.pub [99] [1]), .eof, .sel .again, .connect,
    .inb (exInfo 5), .sel .again, .wCheck 3, .wWake 3]).1.enq = [authFrame exCfg [5,8,7,6]] := by decide +kernel

end Blk
/-! ## blocking Client (hpfeeds/client.py, reconnect=True) -/
namespace Client
open Hpfeeds.BlkClient

/-- On every connection, after ANY event sequence (application steps, answers of the network to every
    blocking call, stop() at any moment, whatever the callbacks do): before the client has answered an
    OP_INFO on the current socket it has sent nothing on it. -/
theorem nothing_before_info (cfg : Cfg) (es : List Ev) (h : (run cfg es).1.nonce = none) :
    (run cfg es).1.sent = [] :=
  (run_inv cfg es).kinv.quiet h

/-- … and everything it has sent on it begins with the OP_AUTH for the nonce it answered; while the
    connection is being set up (connect / do_auth) nothing has been answered yet. -/
theorem first_frame_is_auth (cfg : Cfg) (es : List Ev) (r : Bytes) (h : (run cfg es).1.nonce = some r) :
    ∃ rest, (run cfg es).1.sent = authFrame cfg r :: rest :=
  (run_inv cfg es).kinv.first r h

theorem setup_is_silent (cfg : Cfg) (es : List Ev) (h : ConnPc (run cfg es).1.pc) :
    (run cfg es).1.nonce = none ∧ (run cfg es).1.sent = [] :=
  ⟨(run_inv cfg es).kinv.pre h, (run_inv cfg es).kinv.quiet ((run_inv cfg es).kinv.pre h)⟩

/-- the observable form over the whole history: for EVERY socket number `k`, the frames the OUTPUT shows sent
    on socket `k` are nothing, or begin with the OP_AUTH of a nonce -/
theorem every_connection_observable (cfg : Cfg) (es : List Ev) (k : Nat) :
    wroteOn k (run cfg es).2 = [] ∨ ∃ (r : Bytes) (rest : List Bytes), wroteOn k (run cfg es).2 = authFrame cfg r :: rest :=
  (run_inv cfg es).shown.2 k

/-- the nonce answered is the one of the OP_INFO that is the FIRST frame received on that socket: do_auth,
    in any state, given a chunk that starts (unpacker empty, as after connect()) with a well-formed frame -/
theorem answers_this_connections_info (cfg : Cfg) (s : State) (who : Who) (f : Frame) (tail n rand : Bytes)
    (hu : s.ubuf = []) (hf : f.WF) (hop : f.op.toNat = OP_INFO) (hrd : read f = some (.ok (.info n rand))) :
    (doAuth cfg s who (enc f ++ tail)).1.pc = .authSend who rand ∧ (doAuth cfg s who (enc f ++ tail)).2 = [] ∧
    (doAuth cfg s who (enc f ++ tail)).1.ubuf = tail := by
  rw [doAuth_enc cfg s who f tail hu hf, if_pos hop, hrd]
  exact ⟨rfl, rfl, rfl⟩

/-- … a first frame that is not an OP_INFO (or an incomplete one) is never answered: new connection -/
theorem no_info_no_answer (cfg : Cfg) (s : State) (who : Who) (f : Frame) (tail : Bytes)
    (hu : s.ubuf = []) (hf : f.WF) (hop : f.op.toNat ≠ OP_INFO) :
    ∃ s', doAuth cfg s who (enc f ++ tail) = retry s' who :=
  ⟨_, by rw [doAuth_enc cfg s who f tail hu hf, if_neg hop]⟩

/-- Client.run then sends OP_SUBSCRIBE for exactly the wanted channels: from the top of run()'s loop on a
    usable connection, with every sendall succeeding, the frames written are one OP_SUBSCRIBE per member of
    the set, once each, in (sorted) set order, and then run() reads.  (`subs` is the set: below.) -/
theorem run_subscribes (cfg : Cfg) (s : State) (ch : Bytes) (rest : List Bytes) (hst : s.stopped = false)
    (hc : s.connected = true) (hu : usable s = true) (hs : sortBytes s.subs = ch :: rest) :
    (runTop s).1.pc = .subSend ch rest .run ∧
    (sendOks cfg (runTop s).1 (rest.length + 1)).2 = (sortBytes s.subs).map (fun c => Out.wrote s.nsock (subFrame cfg c)) ∧
    (sendOks cfg (runTop s).1 (rest.length + 1)).1.pc = .runRecv := by
  have := subscribes cfg (sortBytes s.subs) s hc hu
  rw [hs] at this
  rw [runTop_subThen cfg hst, hs, ← List.length_cons, this, subThen_run cfg hc hu]
  exact ⟨rfl, rfl, rfl⟩

/-- the wanted set only grows (Client has subscribe() and no unsubscribe()): whatever happens, a channel the
    application subscribed — before run(), between runs, or from inside a callback — stays wanted -/
theorem wanted_is_kept (cfg : Cfg) (s : State) (e : Ev) (ch : Bytes) (h : ch ∈ s.subs) : ch ∈ (step cfg s e).1.subs :=
  (mo_step cfg s e).subs ch h

theorem subscribe_adds (cfg : Cfg) (s : State) (ch : Bytes) (h : s.pc = .idle) : ch ∈ (step cfg s (.sub ch)).1.subs := by
  rw [step_idle_sub cfg h]
  show ch ∈ if ch ∈ s.subs then s.subs else s.subs ++ [ch]
  split
  · assumption
  · exact List.mem_append_right _ (List.mem_singleton_self ch)

/-! non-vacuity (kernel-evaluated, hash := id): refused, then connected; INFO answered with ITS nonce; run()
    subscribes the two channels in set order; a later loss + reconnection answers the NEW nonce and
    resubscribes -/
def exCfg : Cfg := { ident := [109], secret := [115], H := id }
def exInfo (a : UInt8) : Bytes := [0,0,0,12,1,2,104,112,a,8,7,6]
example : (run exCfg [.new, .connRefused, .connOk, .data (exInfo 9), .sendOk, .sub [100], .sub [99], .run, .sendOk, .sendOk,
    .eof, .connOk, .data (exInfo 5), .sendOk, .sendOk, .sendOk]).2 =
    [.attempt 1, .sleep, .closed 1, .attempt 2, .wrote 2 (authFrame exCfg [9,8,7,6]),
     .wrote 2 (subFrame exCfg [99]), .wrote 2 (subFrame exCfg [100]),
     .closed 2, .attempt 3, .wrote 3 (authFrame exCfg [5,8,7,6]), .wrote 3 (subFrame exCfg [99]), .wrote 3 (subFrame exCfg [100])] := by
  decide +kernel

end Client
end Hpfeeds.C11
