/-
  C01 — fan-out: one exact copy to every current subscriber, nobody else, in order.
  All theorems quantify over ALL event histories `es` (any number of connections, identities and
  channels, any payload `Bytes`, any chunking of `data` events, any interleaving at callback
  granularity — the broker is single-threaded and each callback runs to completion).
-/
import Hpfeeds.Lemmas.BrokerDeliv
import Hpfeeds.Lemmas.BrokerChunk
namespace Hpfeeds.C01
open Hpfeeds Hpfeeds.Broker Extracted

/-- What one accepted OP_PUBLISH does, in any reachable state: every connection that holds a
    subscription to the channel and is open gets exactly one more entry in its action log — the write of
    the frame carrying `ident`, the channel and the payload — and every other connection's log is
    unchanged. -/
theorem publish_exact (cfg : Cfg) (es : List Event) (c : Nat) (x : Conn) (ident ch p : Bytes) (d : Nat) (y : Conn)
    (hy : (run cfg es).conn d = some y) :
    ∃ y', (publish (run cfg es) c x ident ch p).conn d = some y' ∧
      y'.out = if ch ∈ y.active ∧ y.closing = false
               then y.out ++ [((run cfg es).now, .write (pubFrame ident ch p))] else y.out := by
  -- the registry lists `d` for `ch` exactly if `d` holds the subscription
  rw [← publishF_none, publishF_conn, hy]
  by_cases ha : ch ∈ y.active
  · refine ⟨_, if_pos (((reg_run cfg es).mem_subs hy ch).mpr ha), ?_⟩
    cases hc : y.closing <;> simp [Conn.fanout, Conn.forgotten, ha, hc]
    split <;> rfl
  · exact ⟨y, if_neg fun hm => ha (((reg_run cfg es).mem_subs hy ch).mp hm), by simp [ha]⟩

/-- The accepted log is exact, for every history: each accepted publish was written to exactly the
    connections that were subscribed to its channel and open at that moment (`entitled` is computed by
    the model from the state at that moment, see `Broker.publish`), once each. -/
theorem exactly_entitled (cfg : Cfg) (es : List Event) (a : Accepted) (ha : a ∈ (run cfg es).accepted) :
    a.recips.Nodup ∧ ∀ d, d ∈ a.recips ↔ d ∈ a.entitled :=
  ⟨((deliv_run cfg es).acc a ha).nodup, ((deliv_run cfg es).acc a ha).exact⟩

/-- For every history and every connection: the OP_PUBLISH frames written to it so far are exactly,
    in order, the accepted publishes that list it as a recipient — nothing else was ever delivered to
    it, nothing was delivered twice, nothing it was entitled to is missing. -/
theorem delivery_log (cfg : Cfg) (es : List Event) (d : Nat) (y : Conn) (hy : (run cfg es).conn d = some y) :
    pubFrames y.out = delivered (run cfg es).accepted d :=
  (deliv_run cfg es).log d y hy

/-- The frame delivered for an accepted publish carries the ident the publisher was authenticated as,
    the channel and the very payload value that was accepted. -/
theorem frame_carries (cfg : Cfg) (es : List Event) (a : Accepted) (ha : a ∈ (run cfg es).accepted) :
    frameOf a = pubFrame a.ident a.chan a.payload ∧ a.srcAk = some a.ident :=
  ⟨rfl, ((deliv_run cfg es).acc a ha).ident⟩

theorem delivered_eq_filter_map (acc : List Accepted) (d : Nat) :
    delivered acc d = (acc.filter fun a => decide (d ∈ a.recips)).map frameOf := by
  unfold delivered
  induction acc with
  | nil => rfl
  | cons a acc ih => by_cases h : d ∈ a.recips <;> simp [h, ih]

/-- Common order: what any two connections received are two sub-sequences of the one acceptance order,
    and the messages common to both form a sub-sequence of each — so they appear in the same order. -/
theorem common_order (cfg : Cfg) (es : List Event) (d₁ d₂ : Nat) (y₁ y₂ : Conn)
    (h₁ : (run cfg es).conn d₁ = some y₁) (h₂ : (run cfg es).conn d₂ = some y₂) :
    let acc := (run cfg es).accepted
    let both := acc.filter fun a => decide (d₁ ∈ a.recips) && decide (d₂ ∈ a.recips)
    pubFrames y₁.out = (acc.filter fun a => decide (d₁ ∈ a.recips)).map frameOf ∧
    pubFrames y₂.out = (acc.filter fun a => decide (d₂ ∈ a.recips)).map frameOf ∧
    both.Sublist (acc.filter fun a => decide (d₁ ∈ a.recips)) ∧
    both.Sublist (acc.filter fun a => decide (d₂ ∈ a.recips)) :=
  -- `both` is the first filter applied to the second
  ⟨by rw [delivery_log cfg es d₁ y₁ h₁, delivered_eq_filter_map],
   by rw [delivery_log cfg es d₂ y₂ h₂, delivered_eq_filter_map],
   by rw [← List.filter_filter]; exact List.filter_sublist.filter _,
   by rw [← List.filter_filter]; exact List.filter_sublist⟩

/-- A PUBLISH reaches `Server.publish` only from an authenticated sender naming its own ident and a
    channel on its publish list (the only call site, `on_publish`). -/
theorem accepted_only_after_checks (cfg : Cfg) (es : List Event) (a : Accepted)
    (ha : a ∈ (run cfg es).accepted) : a.srcAk = some a.ident ∧ a.chan ∈ a.srcPubchans :=
  ⟨((deliv_run cfg es).acc a ha).ident, ((deliv_run cfg es).acc a ha).chan⟩

/-- EVERY WAY THE INBOUND BYTE STREAMS ARE CHUNKED.  In ANY state, for ANY split `a ++ b` of what connection
    `c` receives: if handling `a` ran to the end of its complete frames (it did not park behind an
    asynchronous AUTH, no handler raised, no bad header — i.e. `c` can still receive data), then delivering `a`
    and then `b` leaves the broker in EXACTLY the state of delivering `a ++ b` at once: every connection's
    log, the registry, the gauges, the accepted log.  By induction this covers every chunking of a stream; a
    history is therefore determined by the per-connection byte streams and the points at which other
    connections' events interleave. -/
theorem chunking_irrelevant (cfg : Cfg) (s : State) (c : Nat) (x : Conn) (a b : Bytes) (hx : s.conn c = some x)
    (hc : (loop cfg c s (x.buf ++ a)).2.2 = .cont) (hw : header (loop cfg c s (x.buf ++ a)).2.1 = .wait) :
    step cfg (step cfg s (.data c a)) (.data c b) = step cfg s (.data c (a ++ b)) :=
  data_chunking cfg s c x a b hx hc hw

/-! non-vacuity (kernel-evaluated): two connections authenticate against a synchronous store (hash := id,
    so the digest is nonce ++ secret), both subscribe to channel "c", connection 1 publishes one byte:
    the accepted log has one entry whose recipients are exactly [1, 2]. -/
def exRow : Row := ⟨[115], [111], [[99]], [[99]]⟩
def exCfg : Cfg := ⟨[104], .sync (fun i => if i = [97] then some exRow else none), id⟩
def exAuth (n : Bytes) : Bytes := [0,0,0,12,2,1,97] ++ n ++ [115]
def exSub : Bytes := [0,0,0,8,4,1,97,99]
def exPub : Bytes := [0,0,0,10,3,1,97,1,99,7]
def exHistory : List Event :=
  [.connect 1 [1,2,3,4], .connect 2 [5,6,7,8], .data 2 (exAuth [5,6,7,8] ++ exSub),
   .data 1 (exAuth [1,2,3,4]), .data 1 exSub, .data 1 exPub]
example : (run exCfg exHistory).accepted.map (fun a => (a.src, a.recips, a.entitled, a.payload)) =
    [(1, [2, 1], [1, 2], [7])] := by decide +kernel
example : ((run exCfg exHistory).conn 2).map (fun y => pubFrames y.out) =
    some [pubFrame [97] [99] [7]] := by decide +kernel

/-- the chunking theorem applies: connection 1's stream AUTH ++ SUB ++ PUB cut inside the PUBLISH header -/
def exS : State := run exCfg [.connect 1 [1,2,3,4], .connect 2 [5,6,7,8], .data 2 (exAuth [5,6,7,8] ++ exSub)]
example : step exCfg (step exCfg exS (.data 1 (exAuth [1,2,3,4] ++ exSub ++ exPub.take 3))) (.data 1 (exPub.drop 3)) =
    step exCfg exS (.data 1 ((exAuth [1,2,3,4] ++ exSub ++ exPub.take 3) ++ exPub.drop 3)) :=
  chunking_irrelevant exCfg exS 1 ((exS.conn 1).get (by decide +kernel)) _ _ (by simp)
    (by decide +kernel) (by decide +kernel)

end Hpfeeds.C01
