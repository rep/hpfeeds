/-
  C16 — the asyncio, blocking and Twisted protocol classes interpret a stream identically.
-/
import Hpfeeds.Model.Proto3
import Hpfeeds.Lemmas.Wire
namespace Hpfeeds.C16
open Hpfeeds Hpfeeds.Proto3 Extracted

/-- behind the stream decoder every frame has one of the six opcodes, for which a reader exists: the
    three classes' unknown-opcode branches (the only place where they differ) are unreachable -/
theorem read_some_of_header {buf : Bytes} {ml : Nat} {op : UInt8} (h : header buf = .ok ml op) :
    read (popFrame buf ml op).1 ≠ none :=
  fun hr => Nat.not_lt.mpr (popFrame_wf h).2.1 (read_eq_none.mp hr)

theorem blkMsg_eq_twMsg (cfg : PCfg) (f : Frame) : blkMsg cfg f = twMsg cfg f := rfl

/-- where a reader exists asyncio and blocking dispatch alike, and the handler's return value never breaks the
    asyncio loop -/
theorem msg_agree (cfg : PCfg) (f : Frame) (h : read f ≠ none) :
    aioMsg cfg f = blkMsg cfg f ∧ ((blkMsg cfg f).2 = .cont ∨ (blkMsg cfg f).2 = .crash) := by
  unfold aioMsg blkMsg
  cases hr : read f with
  | none => exact absurd hr h
  | some r =>
    cases r with
    | error c => exact ⟨rfl, .inr rfl⟩
    | ok m => cases m <;> exact ⟨rfl, .inl rfl⟩

/-- For EVERY byte buffer the three classes' loops produce the same observations and leave the same
    bytes buffered. -/
theorem loops_equal (cfg : PCfg) (buf : Bytes) :
    aioLoop cfg buf = blkLoop cfg buf ∧ blkLoop cfg buf = twLoop cfg buf := by
  fun_induction drain buf with
  | case1 buf h => rw [aioLoop, blkLoop, twLoop]; split <;> simp_all
  | case2 buf e h => rw [aioLoop, blkLoop, twLoop]; split <;> simp_all
  | case3 buf ml op h _ ih =>
    rw [aioLoop, blkLoop, twLoop]
    split
    · simp_all
    · simp_all
    · next ml' op' h' =>
      cases h.symm.trans h'
      obtain ⟨hm, hc⟩ := msg_agree cfg (popFrame buf ml op).1 (read_some_of_header h)
      rw [hm, ← blkMsg_eq_twMsg]
      rcases hc with hc | hc
      · simp only [hc, show (popFrame buf ml op).2 = buf.drop ml from rfl, ih.1, ← ih.2, and_self]
      · simp only [hc, and_self]

/-- Given the same inbound bytes in the same chunks — ANY bytes, ANY chunking — the three classes
    invoke the same handler sequence with the same arguments, send the same reply bytes and drop the
    connection on exactly the same inputs, chunk by chunk. -/
theorem proto3_equiv (cfg : PCfg) (buf : Bytes) (chunks : List Bytes) :
    feeds (aioLoop cfg) buf chunks = feeds (blkLoop cfg) buf chunks ∧
    feeds (blkLoop cfg) buf chunks = feeds (twLoop cfg) buf chunks := by
  have e1 : aioLoop cfg = blkLoop cfg := funext fun b => (loops_equal cfg b).1
  have e2 : blkLoop cfg = twLoop cfg := funext fun b => (loops_equal cfg b).2
  rw [e1, e2]; exact ⟨rfl, rfl⟩

/-- A frame its reader decodes drops the connection exactly when it carries one of the broker-only opcodes AUTH,
    SUBSCRIBE, UNSUBSCRIBE; never ERROR, INFO or PUBLISH.  (An illegal header - unknown opcode, illegal length - drops it
    in the `.bad` branch of the three loops.) -/
theorem drops_exactly (cfg : PCfg) (f : Frame) (m : Msg) (h : read f = some (.ok m)) :
    (Obs.drop ∈ (blkMsg cfg f).1) ↔
      (∃ i d, m = .auth i d) ∨ (∃ i c, m = .subscribe i c) ∨ (∃ i c, m = .unsubscribe i c) := by
  unfold blkMsg
  rw [h]
  cases m <;> simp

/-- The reply to OP_INFO is the OP_AUTH computed from that INFO's nonce and the client's own ident and
    secret, in all three classes. -/
theorem info_reply (cfg : PCfg) (f : Frame) (n r : Bytes) (h : read f = some (.ok (.info n r))) :
    (aioMsg cfg f).1 = [.onInfo n r, .wrote (authBytes cfg r), .ready] ∧
    (blkMsg cfg f).1 = [.onInfo n r, .wrote (authBytes cfg r), .ready] ∧
    (twMsg cfg f).1 = [.onInfo n r, .wrote (authBytes cfg r), .ready] := by
  unfold aioMsg blkMsg twMsg; rw [h]; exact ⟨rfl, rfl, rfl⟩

/-! ### the dispatch tables, regenerated from the source on every run

`Extracted.DISPATCH_AIO / _BLK / _TW` are read off the if/elif chains of `BaseProtocol.message_received` (asyncio,
blocking) and `messageReceived` (Twisted) by `harness/extract.py`: opcode, field reader, handler (canonical name), and
whether the reader's result is splatted.  The three models dispatch on the constructor `read` returns; `modelRow` names,
per constructor, the reader and the handler the models stand for, and `read_op` says the constructor is chosen by the
opcode.  So the obligation below ties the three source tables to one another AND to the model; a reader swapped or a
handler renamed in one class makes it fail while the correspondence run looks for the stream on which the classes differ. -/

def modelRow : Msg → Nat × String × String × Nat
  | .error _ => (OP_ERROR, "readerror", "onerror", 0)
  | .info _ _ => (OP_INFO, "readinfo", "oninfo", 1)
  | .auth _ _ => (OP_AUTH, "readauth", "onauth", 1)
  | .publish _ _ _ => (OP_PUBLISH, "readpublish", "onpublish", 1)
  | .subscribe _ _ => (OP_SUBSCRIBE, "readsubscribe", "onsubscribe", 1)
  | .unsubscribe _ _ => (OP_UNSUBSCRIBE, "readunsubscribe", "onunsubscribe", 1)

def modelDispatch : List (Nat × String × String × Nat) :=
  [Msg.error [], .info [] [], .auth [] [], .publish [] [] [], .subscribe [] [], .unsubscribe [] []].map modelRow

/-- the model picks the row by the frame's opcode -/
theorem model_dispatches_by_opcode {f : Frame} {m : Msg} (h : read f = some (.ok m)) : (modelRow m).1 = f.op.toNat := by
  rw [read_op h]; cases m <;> rfl

def routing (t : List (Nat × String × String × Nat)) : List (Nat × String × Nat) := t.map fun r => (r.1, r.2.2.1, r.2.2.2)

/-- the three classes' dispatch tables, as read off the source on this run, are one table, and it is the model's, compared
    on what is behaviour: which handler an opcode is routed to and whether the fields are splatted.  (The
    NAME of the reader function is internal - `readsubscribe` and `readunsubscribe` are the same function under two
    names - and is kept in the generated table for the reader of the evidence only.) -/
theorem dispatch_tables_are_the_models :
    routing DISPATCH_AIO = routing modelDispatch ∧ routing DISPATCH_BLK = routing modelDispatch ∧
    routing DISPATCH_TW = routing modelDispatch := by decide +kernel

end Hpfeeds.C16
