/-
  C09 — a connection that ends at any point is forgotten completely.
  All statements are over ALL event histories (no validity assumption): pre-auth, mid-frame, with a
  look-up pending, subscribed, read-paused, with a deadline armed, already closing — every state the
  history can have produced.
-/
import Hpfeeds.Lemmas.BrokerMono
namespace Hpfeeds.C09
open Hpfeeds Hpfeeds.Broker

/-- a record the broker has unregistered (by `connection_lost` from the transport, or by the forced
    `connection_lost` in `Server.publish`) holds no subscription and is in no channel's registry -/
theorem unregistered_forgotten (cfg : Cfg) (es : List Event) (c : Nat) (x : Conn)
    (hx : (run cfg es).conn c = some x) (hr : x.registered = false) :
    x.active = [] ∧ ∀ ch, c ∉ (run cfg es).subs ch := by
  have h := reg_run cfg es
  have ha := h.unreg_empty c x hx hr
  exact ⟨ha, fun ch hm => by have := (h.mem_subs hx ch).mp hm; rw [ha] at this; cases this⟩

theorem lost_sets_gone (cfg : Cfg) (s : State) (c : Nat) (x : Conn)
    (hx : (step cfg s (.lost c)).conn c = some x) : x.gone = true := by
  cases hy : s.conn c with
  | none => rw [step_lost_none hy, hy] at hx; cases hx
  | some y =>
    rw [step_lost hy] at hx
    split at hx
    · rename_i hg; rw [hy] at hx; cases hx; exact hg
    · exact lostConn_gone hx

/-- Right after the transport reports `c` lost — whatever state `c` was in — the broker no longer
    treats it as a connection or as a subscriber of any channel. -/
theorem lost_forgets (cfg : Cfg) (es : List Event) (c : Nat) (x : Conn)
    (hx : (run cfg (es ++ [.lost c])).conn c = some x) :
    x.gone = true ∧ x.registered = false ∧ x.active = [] ∧ ∀ ch, c ∉ (run cfg (es ++ [.lost c])).subs ch := by
  have hg : x.gone = true := by
    rw [run_append] at hx
    exact lost_sets_gone cfg _ c x hx
  have hr := ((reg_run cfg _).gone_closed c x hx hg).2
  exact ⟨hg, hr, unregistered_forgotten cfg _ c x hx hr⟩

/-- ... and it stays forgotten under EVERY later event: late look-up verdicts for it, its deadline
    timer firing, other connections publishing on its former channels, more bytes, anything. -/
theorem lost_stable (cfg : Cfg) (es es' : List Event) (c : Nat) (x : Conn)
    (hx : (run cfg es).conn c = some x) (hg : x.gone = true) :
    ∃ y, (run cfg (es ++ es')).conn c = some y ∧ y.gone = true ∧ y.registered = false ∧ y.active = [] ∧
      ∀ ch, c ∉ (run cfg (es ++ es')).subs ch := by
  obtain ⟨y, hy, m⟩ := mono_run_append cfg es es' hx
  have hg' := m.gone hg
  have hr := ((reg_run cfg _).gone_closed c y hy hg').2
  exact ⟨y, hy, hg', hr, unregistered_forgotten cfg _ c y hy hr⟩

/-- The loss of `c` changes no other connection's record and nobody else's registry membership. -/
theorem others_unaffected (cfg : Cfg) (es : List Event) (c d : Nat) (hd : d ≠ c) :
    (run cfg (es ++ [.lost c])).conn d = (run cfg es).conn d ∧
    ∀ ch, d ∈ (run cfg (es ++ [.lost c])).subs ch ↔ d ∈ (run cfg es).subs ch := by
  have hc : (run cfg (es ++ [.lost c])).conn d = (run cfg es).conn d := by
    rw [run_append]
    show (step cfg (run cfg es) (.lost c)).conn d = _
    cases hx : (run cfg es).conn c with
    | none => rw [step_lost_none hx]
    | some x =>
      rw [step_lost hx]
      split
      · rfl
      · exact (own_lostConn (cfg := cfg) hx).others d hd
  exact ⟨hc, fun ch => by rw [(reg_run cfg _).sub_iff, (reg_run cfg es).sub_iff, hc]⟩

/-- A connection can also never be registered again once the broker unregistered it. -/
theorem unregistered_stable (cfg : Cfg) (es es' : List Event) (c : Nat) (x : Conn)
    (hx : (run cfg es).conn c = some x) (hr : x.registered = false) :
    ∃ y, (run cfg (es ++ es')).conn c = some y ∧ y.registered = false ∧ y.active = [] := by
  obtain ⟨y, hy, m⟩ := mono_run_append cfg es es' hx
  exact ⟨y, hy, m.unreg hr, (unregistered_forgotten cfg _ c y hy (m.unreg hr)).1⟩

/-! non-vacuity: a connection that is really present is lost -/
example : ∃ x, (run ⟨[], .async, id⟩ [.connect 1 [1,2,3,4], .lost 1]).conn 1 = some x := ⟨_, rfl⟩

end Hpfeeds.C09
