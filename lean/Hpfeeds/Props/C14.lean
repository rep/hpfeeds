/-
  C14 — with an asynchronous credential store, pipelined frames wait for the verdict.

  Full statement (DESIGN.md section 7): running `data c (auth ++ rest)`, then any events `es` not about
  `c`, then the verdict, gives the observable state of running `es` first and then `data c (auth ++ rest)`
  against a synchronous store answering the same.  What is proved here is that statement decomposed into
  its load-bearing parts: `parks` (the bytes behind OP_AUTH stay in the unpacker verbatim),
  `pending_inert` (whatever else happens in between does not touch them), `verdict_is_sync_now` (the
  property's last sentence, literally: the state after a successful verdict IS the state a synchronous store
  answering the same would produce by handling OP_AUTH ++ the parked bytes at that moment), `verdict_failure`
  (never after a failed look-up).  What is NOT proved is the re-ordering form of DESIGN.md's
  `verdict_commutes` (moving the events in between across c's handler); the property does not ask for it:
  it compares with a synchronous store consulted "at the moment the lookup completed".
-/
import Hpfeeds.Lemmas.BrokerFrame
import Hpfeeds.Lemmas.BrokerHandler
namespace Hpfeeds.C14
open Hpfeeds Hpfeeds.Broker Extracted

theorem loop_step {cfg : Cfg} {c : Nat} {s : State} {buf : Bytes} {ml : Nat} {op : UInt8}
    (h : header buf = .ok ml op) :
    loop cfg c s buf =
      match (messageReceived cfg s c (popFrame buf ml op).1).2 with
      | .cont => loop cfg c (messageReceived cfg s c (popFrame buf ml op).1).1 (popFrame buf ml op).2
      | ctl => ((messageReceived cfg s c (popFrame buf ml op).1).1, (popFrame buf ml op).2, ctl) :=
  loop_ok h

/-- An OP_AUTH handled with an asynchronous store: the look-up is recorded, reading is paused, and
    NOTHING else happens — no registry, gauge or accepted-log change, no write — and the handler asks
    the loop to stop. -/
theorem auth_parks (cfg : Cfg) (s : State) (c : Nat) (x : Conn) (f : Frame) (ident digest : Bytes)
    (hx : s.conn c = some x) (hreg : x.registered = true) (hstore : cfg.store = .async)
    (hf : read f = some (.ok (.auth ident digest))) :
    messageReceived cfg s c f = (pauseReading (addPending s c ident digest) c, .brk) := by
  refine (mr_auth hx hf).trans ?_
  rw [hreg, hstore]; rfl

/-- ... so the bytes behind the OP_AUTH stay in the unpacker verbatim (neither acted on nor dropped):
    the loop returns them as the new buffer. -/
theorem parks (cfg : Cfg) (s : State) (c : Nat) (x : Conn) (buf : Bytes) (ml : Nat) (op : UInt8)
    (ident digest : Bytes) (hx : s.conn c = some x) (hreg : x.registered = true)
    (hstore : cfg.store = .async) (hh : header buf = .ok ml op)
    (hf : read (popFrame buf ml op).1 = some (.ok (.auth ident digest))) :
    loop cfg c s buf = (pauseReading (addPending s c ident digest) c, buf.drop ml, .brk) := by
  rw [loop_step hh, auth_parks cfg s c x _ ident digest hx hreg hstore hf]
  rfl

/-- While the look-up is pending, NO event that is not about `c` touches c's parked bytes, its pending
    look-ups, its paused state or its identity.
    (Events about `c` itself: under the transport contract there is no `data c` while reading is paused;
    `lost c` is covered by C09.) -/
theorem pending_inert (cfg : Cfg) (s : State) (e : Event) (c : Nat) (y : Conn)
    (hd : e.target ≠ some c) (hy : s.conn c = some y) :
    ∃ y', (step cfg s e).conn c = some y' ∧ y'.buf = y.buf ∧ y'.pending = y.pending ∧
      y'.paused = y.paused ∧ y'.ak = y.ak ∧ y'.closing = y.closing ∧ y'.pubchans = y.pubchans ∧
      y'.subchans = y.subchans := by
  obtain ⟨y', hy', extra, r, _, _⟩ := others_step cfg s e c y hd hy
  refine ⟨y', hy', ?_, ?_, ?_, ?_, ?_, ?_, ?_⟩ <;> rw [r.eq]

/-- A successful verdict: exactly the state change a synchronous `authenticate` makes at that moment
    (identity, ACLs, gauge move, buffer limits), then ONE pass of the frame loop over the parked bytes,
    whose remainder becomes the new buffer (so every parked frame takes effect exactly once, in order),
    then reading resumes unless the loop parked again behind another OP_AUTH (fix D6) or a frame could
    not be handled (fix D8: close). -/
theorem verdict_success (cfg : Cfg) (s : State) (c i : Nat) (x : Conn) (ident digest : Bytes) (r : Lookup)
    (row : Row) (hx : s.conn c = some x) (hp : x.pending[i]? = some (ident, digest))
    (hok : authOk cfg x digest r = some row) :
    step cfg s (.lookupDone c i r) =
      (let s1 := logAct (setAuth (dropPending s c i) c ident digest row) c (.setLimits (limit OP_PUBLISH * highWaterFactor))
       let l := loop cfg c s1 x.buf
       let s2 := setBuf l.1 c l.2.1
       if l.2.2 = .crash then closeT s2 c else if l.2.2 = .brk then s2 else resumeReading s2 c) := by
  simp only [step, hx, hp, authenticate, hok, if_true]

/-- The synchronous path makes the same state change and continues the same loop over the rest of the
    buffer: `authenticate` accepted ⇒ `(logAct (setAuth …) (setLimits …), cont)`. -/
theorem sync_auth_success (cfg : Cfg) (s : State) (c : Nat) (x : Conn) (f : Frame) (ident digest : Bytes)
    (tbl : Bytes → Option Row) (row : Row)
    (hx : s.conn c = some x) (hreg : x.registered = true) (hstore : cfg.store = .sync tbl)
    (hf : read f = some (.ok (.auth ident digest))) (ht : tbl ident = some row)
    (hok : cfg.H (x.nonce ++ row.secret) = digest) :
    messageReceived cfg s c f =
      (logAct (setAuth s c ident digest row) c (.setLimits (limit OP_PUBLISH * highWaterFactor)), .cont) := by
  refine (mr_auth hx hf).trans ?_
  rw [hreg, hstore]
  simp only [ht, authenticate, authOk, hok, if_true]
  rfl

/-- THE VISIBLE OUTCOME IS THAT OF A SYNCHRONOUS STORE CONSULTED AT THE MOMENT THE LOOK-UP COMPLETED.
    In ANY state in which `c` has the look-up `(ident, digest)` pending, for ANY table `tbl` that answers
    `ident ↦ row` with a matching digest: the state after the verdict `row` equals — exactly, field by field,
    every connection's log, the registry, the gauges, the accepted log — what the frame loop of the
    SYNCHRONOUS store `tbl` produces from the state as it is now when it handles the OP_AUTH frame followed
    by the parked bytes, then (as `data_received` does) stores the unpacker's rest and resumes reading, or
    closes if a handler raised.  Side condition: the parked bytes do not park again behind a further OP_AUTH
    (then the comparison applies to that look-up in turn). -/
theorem verdict_is_sync_now (cfg : Cfg) (hstore : cfg.store = .async) (tbl : Bytes → Option Row)
    (s : State) (c i : Nat) (x : Conn) (ident digest : Bytes) (row : Row) (f : Frame)
    (hx : s.conn c = some x) (hp : x.pending[i]? = some (ident, digest)) (hreg : x.registered = true)
    (ht : tbl ident = some row) (hok : cfg.H (x.nonce ++ row.secret) = digest)
    (hf : f.WF) (hrd : read f = some (.ok (.auth ident digest)))
    (hnb : (loop cfg c (logAct (setAuth (dropPending s c i) c ident digest row) c (.setLimits (limit OP_PUBLISH * highWaterFactor)))
      x.buf).2.2 ≠ .brk) :
    step cfg s (.lookupDone c i (.row row)) =
      (let l := loop (withSync cfg tbl) c (dropPending s c i) (enc f ++ x.buf)
       let s2 := setBuf l.1 c l.2.1
       if l.2.2 = .crash then closeT s2 c else resumeReading s2 c) := by
  -- the verdict runs the asynchronous loop over the parked bytes; the synchronous loop takes the OP_AUTH frame first,
  -- which leaves the same state, and from there on the store is irrelevant
  rw [verdict_success cfg s c i x ident digest (.row row) row hx hp (by simp [authOk, hok]),
    loop_ok (header_enc_append f x.buf hf), popFrame_enc_append,
    sync_auth_success (withSync cfg tbl) (dropPending s c i) c _ f ident digest tbl row (upd_conn_self hx) hreg rfl hrd ht hok,
    loop_store_irrelevant cfg tbl hstore c _ _ hnb]
  simp only [hnb, if_false]

/-- A failed look-up (unknown ident, wrong digest, or the store raising): OP_ERROR + close, and that is
    all — the parked bytes are still in the buffer, untouched, and are never processed: the connection is
    closing (no more `data`), and by C04.no_publish_after_close nothing is ever delivered to it. -/
theorem verdict_failure (cfg : Cfg) (s : State) (c i : Nat) (x : Conn) (ident digest : Bytes) (r : Lookup)
    (hx : s.conn c = some x) (hp : x.pending[i]? = some (ident, digest))
    (hbad : authOk cfg x digest r = none) :
    step cfg s (.lookupDone c i r) = errorClose (dropPending s c i) c ∧
    (step cfg s (.lookupDone c i r)).accepted = s.accepted ∧
    (step cfg s (.lookupDone c i r)).subs = s.subs ∧
    ∃ y, (step cfg s (.lookupDone c i r)).conn c = some y ∧ y.buf = x.buf ∧ y.closing = true ∧
      y.ak = x.ak ∧ y.active = x.active := by
  have h1 : step cfg s (.lookupDone c i r) = errorClose (dropPending s c i) c := by
    simp only [step, hx, hp, authenticate, hbad, Bool.false_eq_true, if_false]
  rw [h1]
  exact ⟨rfl, rfl, rfl, _, errorClose_conn_eq (s := dropPending s c i) (upd_conn_self hx), rfl, rfl, rfl, rfl⟩

/-! non-vacuity (kernel-evaluated): AUTH + SUBSCRIBE + PUBLISH pipelined in one chunk against an
    asynchronous store; nothing happens until the verdict; after it, the subscription and the publish
    have taken effect exactly once. -/
def exRow : Row := ⟨[115], [111], [[99]], [[99]]⟩
def exCfg : Cfg := ⟨[104], .async, id⟩
def exChunk : Bytes := [0,0,0,12,2,1,97,1,2,3,4,115] ++ [0,0,0,8,4,1,97,99] ++ [0,0,0,10,3,1,97,1,99,7]
example : ((run exCfg [.connect 1 [1,2,3,4], .data 1 exChunk]).conn 1).map
    (fun y => (y.ak, y.active, y.paused, y.buf.length, y.pending.length)) = some (none, [], true, 18, 1) ∧
    (run exCfg [.connect 1 [1,2,3,4], .data 1 exChunk]).accepted.length = 0 := by decide +kernel
example : ((run exCfg [.connect 1 [1,2,3,4], .data 1 exChunk, .lookupDone 1 0 (.row exRow)]).conn 1).map
    (fun y => (y.ak, y.active, y.paused, y.buf.length, pubFrames y.out)) =
      some (some [97], [[99]], false, 0, [pubFrame [97] [99] [7]]) := by decide +kernel
example : ((run exCfg [.connect 1 [1,2,3,4], .data 1 exChunk, .lookupDone 1 0 .missing]).conn 1).map
    (fun y => (y.ak, y.active, y.closing, y.buf.length)) = some (none, [], true, 18) := by decide +kernel

/-- the comparison is not vacuous: the example above, against the synchronous store that knows `a` -/
def exTbl : Bytes → Option Row := fun i => if i = [97] then some exRow else none
example : step exCfg (run exCfg [.connect 1 [1,2,3,4], .data 1 exChunk]) (.lookupDone 1 0 (.row exRow)) =
    (let l := loop (withSync exCfg exTbl) 1 (dropPending (run exCfg [.connect 1 [1,2,3,4], .data 1 exChunk]) 1 0)
      (enc ⟨2, [1,97,1,2,3,4,115]⟩ ++ ([0,0,0,8,4,1,97,99] ++ [0,0,0,10,3,1,97,1,99,7]))
     let s2 := setBuf l.1 1 l.2.1
     if l.2.2 = .crash then closeT s2 1 else resumeReading s2 1) := by
  have hx : (run exCfg [.connect 1 [1,2,3,4], .data 1 exChunk]).conn 1 =
      some (((run exCfg [.connect 1 [1,2,3,4], .data 1 exChunk]).conn 1).get (by decide +kernel)) := by simp
  refine verdict_is_sync_now exCfg rfl exTbl _ 1 0 _ [97] [1,2,3,4,115] exRow ⟨2, [1,97,1,2,3,4,115]⟩ hx
    (by decide +kernel) (by decide +kernel) rfl (by decide +kernel) (by decide +kernel) (by rfl) ?_ |>.trans ?_
  · decide +kernel
  · have hb : (((run exCfg [.connect 1 [1,2,3,4], .data 1 exChunk]).conn 1).get (by decide +kernel)).buf =
        [0,0,0,8,4,1,97,99] ++ [0,0,0,10,3,1,97,1,99,7] := by decide +kernel
    rw [hb]

end Hpfeeds.C14
