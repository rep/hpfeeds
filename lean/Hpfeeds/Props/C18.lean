/-
  C18 — reloading the JSON user file is all-or-nothing.
  `parsed : Option JVal` is what `json.load` produced (`none` = missing / unreadable / not JSON /
  not UTF-8): a truncated or half-written file is either `none` or some other JSON value — every case is
  covered.  Which file-system events trigger a reload (inotify) is not modelled.
-/
import Hpfeeds.Model.JsonReload
namespace Hpfeeds.C18
open Hpfeeds Hpfeeds.JsonReload

theorem reload_eq (db : Db) (parsed : Option JVal) : reload db parsed = (parsed.bind validate).getD db := by
  cases parsed with
  | none => rfl
  | some j =>
    rw [reload, Option.bind_some]
    cases validate j <;> rfl

theorem validate_eq_some {j : JVal} {l : Db} (h : validate j = some l) :
    j = .obj l ∧ l.all (fun e => entryOk e.2) = true := by
  match j, h with
  | .obj l', h =>
    rw [validate] at h
    split at h
    · next hall => cases h; exact ⟨rfl, hall⟩
    · cases h

/-- After a (re)load the database is EITHER exactly the previous one OR the complete new mapping, and the
    latter happens exactly when the file parsed to an object whose every entry passes the checks. -/
theorem all_or_nothing (db : Db) (parsed : Option JVal) :
    (reload db parsed = db ∧ (∀ j, parsed = some j → validate j = none)) ∨
    (∃ l, parsed = some (.obj l) ∧ l.all (fun e => entryOk e.2) = true ∧ reload db parsed = l) := by
  rw [reload_eq]
  cases hv : parsed.bind validate with
  | none => exact .inl ⟨rfl, Option.bind_eq_none_iff.mp hv⟩
  | some l =>
    obtain ⟨j, rfl, hj⟩ := Option.bind_eq_some_iff.mp hv
    obtain ⟨rfl, hall⟩ := validate_eq_some hj
    exact .inr ⟨l, rfl, hall, rfl⟩

/-- What "valid" means, entry by entry: an object with the keys owner and secret present and list-typed
    pubchans and subchans. -/
theorem entry_ok_iff (v : JVal) :
    entryOk v = true ↔ ∃ l, v = .obj l ∧ (field l kOwner).isSome = true ∧ (field l kSecret).isSome = true ∧
      (∃ p, field l kPub = some (.arr p)) ∧ (∃ q, field l kSub = some (.arr q)) := by
  have arr : ∀ {o : Option JVal},
      (match o with | some p => p.isArr | none => false) = true ↔ ∃ q, o = some (.arr q) := by
    intro o
    cases o with
    | none => simp
    | some p => cases p <;> simp [JVal.isArr]
  cases v with
  | obj l =>
    simp only [entryOk, Bool.and_eq_true]
    constructor
    · rintro ⟨⟨⟨h1, h2⟩, h3⟩, h4⟩
      exact ⟨l, rfl, h1, h2, arr.mp h3, arr.mp h4⟩
    · rintro ⟨_, hl, h1, h2, hp, hq⟩
      cases hl
      exact ⟨⟨⟨h1, h2⟩, arr.mpr hp⟩, arr.mpr hq⟩
  | _ => simp [entryOk]

/-- an invalid file — truncated, half-written, mistyped, not JSON, missing — never clears, shrinks or
    partially replaces the users already loaded: the database is literally unchanged -/
theorem invalid_keeps_everything (db : Db) (parsed : Option JVal)
    (hbad : ∀ j, parsed = some j → validate j = none) : reload db parsed = db := by
  rw [reload_eq, Option.bind_eq_none_iff.mpr hbad]
  rfl

theorem foldl_getD {α β : Type} (g : β → Option α) (a : α) (l : List β) :
    l.foldl (fun a b => (g b).getD a) a = (l.reverse.findSome? g).getD a := by
  induction l generalizing a with
  | nil => rfl
  | cons b l ih =>
    rw [List.foldl_cons, ih, List.reverse_cons, List.findSome?_append]
    cases l.reverse.findSome? g with
    | some _ => rfl
    | none => cases h : g b <;> simp [h]

/-- After ANY sequence of reloads the database is the initial one or the complete mapping of one of the
    valid files in the sequence — namely the last valid one. -/
theorem reload_seq (db : Db) (files : List (Option JVal)) :
    reloads db files =
      match (files.reverse.findSome? fun p => p.bind validate) with
      | some new => new
      | none => db := by
  have h := foldl_getD (fun p : Option JVal => p.bind validate) db files
  simp only [← reload_eq] at h
  rw [reloads, h]
  cases files.reverse.findSome? fun p => p.bind validate <;> rfl

/-! non-vacuity: a valid table replaces; an entry with a string where a list is required keeps the old -/
def exEntry : JVal := .obj [(kOwner, .str [111]), (kSecret, .str [115]), (kPub, .arr []), (kSub, .arr [.str [99]])]
def exBad : JVal := .obj [(kOwner, .str [111]), (kSecret, .str [115]), (kPub, .str [99]), (kSub, .arr [])]
example : reload [([1], exEntry)] (some (.obj [([2], exEntry), ([3], exEntry)])) = [([2], exEntry), ([3], exEntry)] := rfl
example : reload [([1], exEntry)] (some (.obj [([2], exEntry), ([3], exBad)])) = [([1], exEntry)] := rfl
example : reload [([1], exEntry)] none = [([1], exEntry)] := rfl

end Hpfeeds.C18
