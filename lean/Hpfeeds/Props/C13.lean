/-
  C13 — clients come back after any connection loss and stop when told to.
  The liveness claim is proved in its bounded-response form: from EVERY reachable state, the environment
  suffix "the connection (if any) is lost; the retry timer (if armed) elapses; the next attempt is
  accepted; OP_INFO arrives" leads, phase by phase, to a connection on which AUTH for the new nonce and
  SUBSCRIBE for the wanted set have been written.  asyncio's task machinery / Twisted's ClientService /
  real DNS and TCP faults are library and OS behaviour, represented by the two outcomes accept / refuse.
-/
import Hpfeeds.Lemmas.Aio.Inv
import Hpfeeds.Lemmas.BlkClient
import Hpfeeds.Lemmas.Aio.Reconnect
import Hpfeeds.Lemmas.BlkClientSteps
namespace Hpfeeds.C13
open Hpfeeds Extracted

/-! ## asyncio ClientSession (`autoStart := true, lossDelay := 0`) and Twisted ClientSessionService
    (`autoStart := false, lossDelay := 1000`): one model, parametrized (Model/AioClient.lean) -/
namespace Aio
open Hpfeeds.AioClient

/-- once started, always started (any configuration) -/
theorem stays_started (cfg : Cfg) (s : State) (e : Ev) (h : s.task ≠ .notStarted) :
    (step cfg s e).1.task ≠ .notStarted :=
  step_started cfg s e (.inl h)

/-- asyncio: the reconnect task has started once any event has been handled -/
theorem started (cfg : Cfg) (ha : cfg.autoStart = true) (es : List Ev) (e : Ev) :
    (run cfg (es ++ [e])).1.task ≠ .notStarted := by
  have : (run cfg (es ++ [e])).1 = (step cfg (run cfg es).1 e).1 := by
    simp [run, List.foldl_append]
  rw [this]
  exact step_started cfg _ e (.inr ha)

/-- Twisted: `startService()` on a fresh service makes the first attempt -/
theorem start_attempts (cfg : Cfg) (s : State) (ha : cfg.autoStart = false) (hs : s.task = .notStarted)
    (hc : s.closeCalled = false) :
    (step cfg s .start).2 = [.attempt] ∧ (step cfg s .start).1.task = .connecting := by
  have hk : kick cfg s = (s, []) := by unfold kick; simp [ha]
  unfold step; rw [hk]; unfold stepK; simp [hs, hc]

/-- (ii) close() ends it.  In EVERY reachable state: with no live transport close() returns at once and
    the reconnect task is cancelled; with a live transport — before OP_INFO, ready, already closing —
    that transport is closed and close() returns when its loss is reported. -/
theorem close_bounded (cfg : Cfg) (s : State) (hs : s.task ≠ .notStarted) (hc : s.closeCalled = false) :
    (Out.closeDone ∈ (step cfg s .close).2) ∨
    (∃ c, s.conn = some c ∧ c.gone = false ∧
      (step cfg s .close).1.conn = some { c with closing := true } ∧
      (step cfg (step cfg s .close).1 .lost).2 = [.closeDone]) := by
  by_cases h : ∃ c, s.conn = some c ∧ c.gone = false
  · obtain ⟨c, hcn, hg⟩ := h
    have e1 := close_with_transport cfg s c hs hc hcn hg
    refine .inr ⟨c, hcn, hg, by rw [e1], ?_⟩
    rw [e1]
    exact lost_completes_close cfg _ _ hs rfl hg rfl rfl
  · rw [close_no_transport cfg s hs hc fun c hcn => Bool.of_not_eq_false fun hg => h ⟨c, hcn, hg⟩]
    exact .inl (List.mem_singleton_self _)

/-- … and no connection attempt follows, whatever happens afterwards. -/
theorem no_attempt_after_close (cfg : Cfg) (es : List Ev) (e : Ev)
    (hc : (run cfg es).1.closeCalled = true) :
    (step cfg (run cfg es).1 e).1.attempts = (run cfg es).1.attempts ∧
    Out.attempt ∉ (step cfg (run cfg es).1 e).2 :=
  AioClient.no_attempt_after_close cfg _ e (run_inv cfg es).2.1 hc

/-- (i) reconnection, phase by phase (each clause is for ANY state in that phase): a lost connection is
    replaced by a new attempt, at once (asyncio) or when the retry delay has elapsed (Twisted); a refused
    attempt is retried after `retryDelay` (1 s); an accepted attempt yields a fresh connection; OP_INFO on it
    produces AUTH + SUBSCRIBE for the wanted set (C11). -/
theorem reconnects (cfg : Cfg) (s : State) :
    (∀ c, s.task ≠ .notStarted → s.conn = some c → c.gone = false → s.closing = false →
      (step cfg s .lost).1.subs = s.subs ∧
      (cfg.lossDelay = 0 → (step cfg s .lost).2 = [.attempt] ∧ (step cfg s .lost).1.task = .connecting) ∧
      (cfg.lossDelay ≠ 0 → (step cfg s .lost).1.task = .sleeping (s.now + cfg.lossDelay) ∧
        ∀ ms, s.now + cfg.lossDelay ≤ s.now + ms →
          (step cfg (step cfg s .lost).1 (.advance ms)).2 = [.attempt] ∧
          (step cfg (step cfg s .lost).1 (.advance ms)).1.task = .connecting)) ∧
    (s.task = .connecting → (step cfg s .refuse).1.task = .sleeping (s.now + cfg.retryDelay) ∧
      ∀ ms, s.now + cfg.retryDelay ≤ s.now + ms →
        (step cfg (step cfg s .refuse).1 (.advance ms)).2 = [.attempt] ∧
        (step cfg (step cfg s .refuse).1 (.advance ms)).1.task = .connecting) ∧
    (s.task = .connecting → (step cfg s .accept).1.conn = some { k := s.nconn + 1 } ∧
      (step cfg s .accept).1.subs = s.subs) ∧
    (∀ c f n rand, s.conn = some c → c.ready = false → c.gone = false → f.WF →
      read f = some (.ok (.info n rand)) →
      (loop cfg s (enc f)).2.1 =
        Out.wrote c.k (authFrame cfg rand) :: (sortBytes s.subs).map (fun ch => Out.wrote c.k (subFrame cfg ch))) := by
  have due : ∀ (s1 : State) t, s1.task = .sleeping t → ∀ ms, t ≤ s1.now + ms →
      (step cfg s1 (.advance ms)).2 = [.attempt] ∧ (step cfg s1 (.advance ms)).1.task = .connecting :=
    fun s1 t h1 ms hms => by rw [step_advance cfg s1 t ms h1 hms]; exact ⟨rfl, rfl⟩
  refine ⟨fun c hs hn hg hcl => ?_, fun hs => ?_, fun hs => by rw [step_accept cfg s hs]; exact ⟨rfl, rfl⟩,
    fun c f n rand hn hr hg hf hrd => congrArg (·.2.1) (loop_info cfg s c f n rand hn hr hg hf hrd)⟩
  · rw [step_lost cfg s c hs hn hg hcl]
    by_cases hd : cfg.lossDelay = 0
    · rw [if_pos hd]; exact ⟨rfl, fun _ => ⟨rfl, rfl⟩, fun h => absurd hd h⟩
    · rw [if_neg hd]; exact ⟨rfl, fun h => absurd h hd, fun _ => ⟨rfl, fun ms hms => due _ _ rfl ms hms⟩⟩
  · rw [step_refuse cfg s hs]; exact ⟨rfl, fun ms hms => due _ _ rfl ms hms⟩

/-- (i) COMPOSED: the session comes back from EVERY reachable state.  After ANY event sequence `es` in which
    the session was started and close() was not called — whatever happened: refused attempts, a loss before
    OP_INFO, right after OP_AUTH, mid-frame, repeatedly —, a fixed environment suffix of at most two events
    (the connection, if any, is lost; the retry timer, if armed, elapses) followed by `accept` brings up a FRESH
    connection, and a whole OP_INFO on it is answered with the OP_AUTH for ITS nonce and one OP_SUBSCRIBE per
    channel the application wants at that moment (then messages flow: C12).  asyncio and Twisted (any `cfg`). -/
theorem comes_back (cfg : Cfg) (es : List Ev) (hs : (run cfg es).1.task ≠ .notStarted)
    (hc : (run cfg es).1.closeCalled = false) (f : Frame) (n rand : Bytes) (hf : f.WF)
    (hrd : read f = some (.ok (.info n rand))) :
    ∃ pre : List Ev, pre.length ≤ 2 ∧ (∀ e ∈ pre, e = .lost ∨ ∃ ms, e = .advance ms) ∧
      (step cfg (steps cfg (run cfg es).1 (pre ++ [.accept])) (.data (enc f))).2 =
        Out.wrote ((run cfg es).1.nconn + 1) (authFrame cfg rand) ::
          (sortBytes (run cfg es).1.subs).map (fun ch => Out.wrote ((run cfg es).1.nconn + 1) (subFrame cfg ch)) ∧
      ∃ c', (step cfg (steps cfg (run cfg es).1 (pre ++ [.accept])) (.data (enc f))).1.conn = some c' ∧
        c'.ready = true ∧ c'.gone = false ∧ c'.k = (run cfg es).1.nconn + 1 := by
  obtain ⟨ms, pre, h, h3, h4, h5⟩ := reattempts cfg _ (run_inv cfg es).2.1 hs hc
  refine ⟨pre, h.length_le, fun e he => ?_, ?_⟩
  · rcases List.mem_cons.mp (h.subset he) with rfl | h'
    · exact .inl rfl
    · exact .inr ⟨ms, List.mem_singleton.mp h'⟩
  rw [steps_append, steps_cons, steps_nil, step_accept cfg _ h3, ← h4, ← h5]
  exact data_info_fresh cfg _ _ f n rand nofun rfl hf hrd

/-! non-vacuity (kernel-evaluated): loss before INFO, refused retry, new connection authenticates with
    ITS nonce and resubscribes; close before INFO completes at the loss; no attempt afterwards -/
def exCfg : Cfg := { ident := [109], secret := [115], H := id }
def twCfg : Cfg := { ident := [109], secret := [115], H := id, autoStart := false, lossDelay := 1000 }
def exInfo (a : UInt8) : Bytes := [0,0,0,12,1,2,104,112,a,8,7,6]
example : (run exCfg [.sub [99], .accept, .lost, .refuse, .advance 1000, .accept, .data (exInfo 5)]).2 =
    [.attempt, .attempt, .attempt, .wrote 2 (authFrame exCfg [5,8,7,6]), .wrote 2 (subFrame exCfg [99])] := by
  decide +kernel
example : (run exCfg [.accept, .close, .lost, .advance 5000, .sub [99]]).2 =
    [.attempt, .closeT 1, .closeDone] := by decide +kernel
example : (run exCfg [.refuse, .close, .advance 5000]).2 = [.attempt, .closeDone] := by decide +kernel
-- Twisted: nothing before startService; after a loss the retry delay elapses first
example : (run twCfg [.sub [99], .advance 5000, .start, .accept, .lost, .advance 999, .advance 1, .accept,
    .data (exInfo 5)]).2 =
    [.attempt, .attempt, .wrote 2 (authFrame twCfg [5,8,7,6]), .wrote 2 (subFrame twCfg [99])] := by
  decide +kernel
example : (run twCfg [.start, .accept, .close, .lost, .advance 5000, .start]).2 =
    [.attempt, .closeT 1, .closeDone] := by decide +kernel

end Aio
/-! ## blocking Client (reconnect=True) -/
namespace Client
open Hpfeeds.BlkClient

/-- (iii) Client.run returns after stop() once its current read completes.  In ANY state in which run() is
    blocked in recv() with `stopped` set — whenever and from wherever stop() was called — whatever the read
    returns: -/
theorem run_returns (cfg : Cfg) (s : State) (hp : s.pc = .runRecv) (hs : s.stopped = true) :
    -- the connection ended: run() returns at once, no new connection attempt
    step cfg s .eof = ({ s with connected := false, pc := .idle }, [.ret]) ∧
    step cfg s .sockErr = ({ s with connected := false, pc := .idle }, [.ret]) ∧
    -- the read timed out or returned data: the complete frames are dispatched, then run() returns without a
    -- connection attempt — unless a reader raised (the exception escapes) or a callback is still inside its
    -- own publish()
    (∀ e, (e = .timeout ∨ ∃ b, e = .data b) →
      ((step cfg s e).1.pc = .idle ∧ (step cfg s e).2.getLast? = some .ret ∧
        (step cfg s e).1.attempts = s.attempts ∧ ∀ k, Out.attempt k ∉ (step cfg s e).2) ∨
      (step cfg s e).1.pc = .crashed ∨ CbBlocked (step cfg s e).1.pc) := by
  have lost := afterInner_stopped (s := { s with connected := false }) hs
  refine ⟨by rw [step_recv_eof cfg hp, lost], by rw [step_recv_sockErr cfg hp, lost], ?_⟩
  intro e he
  rcases he with rfl | ⟨b, rfl⟩
  · rw [step_recv_timeout cfg hp]; exact afterFrames_stopped cfg s hs
  · rw [step_recv_data cfg hp]
    split
    · rw [lost]; exact .inl ⟨rfl, rfl, rfl, by simp⟩
    · exact afterFrames_stopped cfg { s with ubuf := s.ubuf ++ b, fed := s.fed ++ b } hs

/-- `stopped` is never cleared (so a stop() made at any earlier moment is still seen) -/
theorem stop_sticks (cfg : Cfg) (s : State) (e : Ev) (h : s.stopped = true) : (step cfg s e).1.stopped = true :=
  (mo_step cfg s e).stopped h

/-- (i) reconnection, phase by phase, each for ANY state of that phase.  A connection lost while run()
    reads (not stopped): the old socket is closed and a new attempt is made at once.  An attempt refused on
    the last address: sleep, then a new attempt (next address first, if there is one).  Accepted: do_auth
    reads.  The OP_INFO: answered with its nonce (C11).  AUTH delivered: run() resubscribes the wanted set
    (C11.run_subscribes) and reads again (C12). -/
theorem reconnects (cfg : Cfg) (s : State) :
    (s.pc = .runRecv → s.stopped = false →
      step cfg s .eof = startConnect { s with connected := false } .run ∧
      step cfg s .sockErr = startConnect { s with connected := false } .run ∧
      (startConnect { s with connected := false } .run).1.pc = .connecting 0 .run ∧
      (startConnect { s with connected := false } .run).2.getLast? = some (.attempt (s.nsock + 1))) ∧
    (∀ i w, s.pc = .connecting i w →
      (i + 1 < cfg.naddr → step cfg s .connRefused = newSocket s (i + 1) w) ∧
      (¬ i + 1 < cfg.naddr → ∃ s', step cfg s .connRefused = retry s' w ∧ (retry s' w).1.pc = .connecting 0 w ∧
        (retry s' w).2.head? = some .sleep ∧ (retry s' w).2.getLast? = some (.attempt (s.nsock + 1))) ∧
      (step cfg s .connOk).1.pc = .authRecv w ∧ (step cfg s .connOk).1.ubuf = [] ∧
      usable (step cfg s .connOk).1 = !s.sockClosed) ∧
    (∀ rand, s.pc = .authSend .run rand → s.stopped = false →
      step cfg s .sendOk =
        ((runTop { s with sent := s.sent ++ [authFrame cfg rand], nonce := some rand, pc := .idle }).1,
         .wrote s.nsock (authFrame cfg rand) ::
           (runTop { s with sent := s.sent ++ [authFrame cfg rand], nonce := some rand, pc := .idle }).2)) := by
  refine ⟨fun hp hs => ?_, fun i w hp => ⟨fun hi => ?_, fun hi => ?_, ?_⟩, fun rand hp _ => step_authed cfg hp⟩
  · have lost := afterInner_lost (s := { s with connected := false }) hs rfl
    exact ⟨by rw [step_recv_eof cfg hp, lost], by rw [step_recv_sockErr cfg hp, lost], rfl, startConnect_last _ _⟩
  · rw [step_refused cfg hp, if_pos hi]
  · rw [step_refused cfg hp, if_neg hi]
    split
    · exact ⟨_, rfl, rfl, rfl, retry_last _ _⟩
    · exact ⟨_, rfl, rfl, rfl, retry_last _ _⟩
  · rw [step_connOk cfg hp]; exact ⟨rfl, rfl, by simp [usable]⟩

/-- (i) COMPOSED: the client comes back.  From ANY state in which run() is reading and has not been stopped: the
    connection is lost; the next attempt is accepted; a whole OP_INFO arrives; the sends succeed.  Then run() is
    reading again, on a NEW socket on which it has sent exactly the OP_AUTH for that OP_INFO's nonce followed by
    one OP_SUBSCRIBE per channel the application wants, in (sorted) set order. -/
theorem comes_back (cfg : Cfg) (s : State) (hp : s.pc = .runRecv) (hst : s.stopped = false)
    (f : Frame) (n rand : Bytes) (hf : f.WF) (hop : f.op.toNat = OP_INFO) (hrd : read f = some (.ok (.info n rand))) :
    let s4 := (step cfg (step cfg (step cfg (step cfg s .eof).1 .connOk).1 (.data (enc f))).1 .sendOk).1
    let fin := (sendOks cfg s4 (sortBytes s.subs).length).1
    fin.pc = .runRecv ∧ fin.nsock = s.nsock + 1 ∧
    fin.sent = authFrame cfg rand :: (sortBytes s.subs).map (subFrame cfg) := by
  obtain ⟨t, ⟨a1, a2, a3, a4, a5, a6⟩, e4⟩ := back_at_loop_top cfg s hp hst f n rand hf hop hrd
  simp only
  rw [e4, runTop_subThen cfg a1, ← a2, subscribes cfg _ t a4 a5]
  exact ⟨rfl, a3, congrArg (· ++ _) a6⟩

/-! non-vacuity (kernel-evaluated): stop() from another thread while run() reads, then the read completes
    with a timeout / with data whose callback publishes; and stop() followed by the loss of the connection:
    run() returns, no attempt -/
def exCfg : Cfg := { ident := [109], secret := [115], H := id,
                     react := fun m => match m.2.2 with | 80 :: r => [.pub [114] r] | _ => [] }
def exInfo : Bytes := [0,0,0,12,1,2,104,112,9,8,7,6]
def exPub (x : UInt8) : Bytes := [0,0,0,10,3,1,97,1,99,x]
example : (run exCfg [.new, .connOk, .data exInfo, .sendOk, .run, .stop, .eof]).2 =
    [.attempt 1, .wrote 1 (authFrame exCfg [9,8,7,6]), .ret] := by decide +kernel
example : (run exCfg [.new, .connOk, .data exInfo, .sendOk, .run, .stop, .data (exPub 80), .sendOk]).2 =
    [.attempt 1, .wrote 1 (authFrame exCfg [9,8,7,6]), .msg ([97],[99],[80]), .wrote 1 (pubFrame exCfg [114] []), .ret] := by
  decide +kernel
example : (run exCfg [.new, .connOk, .data exInfo, .sendOk, .run, .eof, .connRefused, .connOk]).2 =
    [.attempt 1, .wrote 1 (authFrame exCfg [9,8,7,6]), .closed 1, .attempt 2, .sleep, .closed 2, .attempt 3] := by
  decide +kernel


/-! ### the resolved addresses are walked round-robin: none is ever given up

`comes_back` above takes `connOk` as an event; with a host that resolves to several addresses the environment can only
accept an attempt that is pointed at a reachable address.  The two theorems below close that gap for the model: in ANY
connecting state, `j` consecutive refusals leave the client attempting address `(i + j) mod naddr` (a sleep at every
wrap-around), so within any `naddr` consecutive refused attempts EVERY address has been the target of an attempt — a
broker reachable through one address only is reached.  (The correspondence run drives the real `Client` through the
fail-over scenario with 2 and 3 addresses; the monitor `address-given-up` states the same on the implementation.) -/

def refusals (cfg : Cfg) (s : State) (j : Nat) : State :=
  (List.replicate j Ev.connRefused).foldl (fun s e => (step cfg s e).1) s

theorem refused_next (cfg : Cfg) {s : State} {i : Nat} {who : Who} (hpc : s.pc = .connecting i who) (hi : i < cfg.naddr) :
    (step cfg s .connRefused).1.pc = .connecting ((i + 1) % cfg.naddr) who := by
  rw [step_refused cfg hpc]
  split
  · rw [Nat.mod_eq_of_lt ‹_›]; rfl
  · rw [show i + 1 = cfg.naddr by omega, Nat.mod_self]
    split <;> rfl

theorem refused_walks_addresses (cfg : Cfg) (j : Nat) : ∀ (s : State) (i : Nat) (who : Who),
    s.pc = .connecting i who → i < cfg.naddr →
    (refusals cfg s j).pc = .connecting ((i + j) % cfg.naddr) who := by
  induction j with
  | zero => exact fun s i who hpc hi => by rw [Nat.add_zero, Nat.mod_eq_of_lt hi]; exact hpc
  | succ j ih =>
    intro s i who hpc hi
    have := ih _ _ who (refused_next cfg hpc hi) (Nat.mod_lt _ (by omega))
    rw [Nat.mod_add_mod, Nat.add_assoc, Nat.add_comm 1 j] at this
    simpa only [refusals, List.replicate_succ, List.foldl_cons] using this

/-- within `naddr` consecutive refused attempts every resolved address is attempted -/
theorem every_address_is_tried (cfg : Cfg) (s : State) (i : Nat) (who : Who) (hpc : s.pc = .connecting i who)
    (hi : i < cfg.naddr) (a : Nat) (ha : a < cfg.naddr) :
    ∃ j, j < cfg.naddr ∧ (refusals cfg s j).pc = .connecting a who := by
  refine ⟨(a + cfg.naddr - i) % cfg.naddr, Nat.mod_lt _ (by omega), ?_⟩
  rw [refused_walks_addresses cfg _ s i who hpc hi]
  congr 1
  rw [Nat.add_mod_mod]
  have : i + (a + cfg.naddr - i) = a + cfg.naddr := by omega
  rw [this, Nat.add_mod_right, Nat.mod_eq_of_lt ha]

/-! non-vacuity: three addresses, four attempts refused one after the other: 0 → 1 → 2 → 0 → 1 -/
example : (refusals { ident := [1], secret := [2], H := id, naddr := 3 }
    (run { ident := [1], secret := [2], H := id, naddr := 3 } [.new]).1 4).pc = .connecting 1 .init := by
  decide +kernel

end Client
end Hpfeeds.C13
