/-
  C10 — one connection's misbehaviour never harms another connection.
  The statements hold in EVERY state (reachable or not) and for EVERY event, hence for every adversarial
  script interleaved in any way with any workload.  The frame property is said for the broker in which transports may
  refuse writes (`stepF`); its statements about `step` are the case of no faulty transport (`stepF_none`).
-/
import Hpfeeds.Lemmas.BrokerFrame
import Hpfeeds.Lemmas.BrokerDeliv
import Hpfeeds.Legacy
import Hpfeeds.Props.C01
namespace Hpfeeds.C10
open Hpfeeds Hpfeeds.Broker Extracted

/-- C10's frame property (`untouched_by_others` below) for the whole event (every frame of the chunk, a verdict's parked
    frames, …), in EVERY state, when the transports in `F` refuse writes inside `Server.publish` (Model/BrokerFault.lean):
    it holds of every connection `d` that the event is not about and whose OWN transport takes writes.  So a broken
    transport of one subscriber cannot make the broker disconnect, crash, pause or otherwise disturb anybody else. -/
theorem untouched_by_others_under_faults (F : Nat → Bool) (cfg : Cfg) (s : State) (e : Event) (d : Nat) (y : Conn)
    (hd : e.target ≠ some d) (hF : F d = false) (hy : s.conn d = some y) :
    ∃ y' extra, (stepF F cfg s e).conn d = some y' ∧
      y' = { y with out := y.out ++ extra, active := y'.active, registered := y'.registered,
                    lostAs := y'.lostAs } ∧
      (∀ en ∈ extra, IsPubWrite en) ∧ (y.closing = true → extra = []) ∧
      (∀ ch ∈ y'.active, ch ∈ y.active) ∧
      ((y'.registered = y.registered ∧ y'.active = y.active) ∨ (y.closing = true ∧ y'.registered = false)) := by
  obtain ⟨y', hy', extra, r, hp, hc⟩ := others_stepF F cfg s e d y hd hF hy
  exact ⟨y', extra, hy', r.eq, hp, hc, r.active, r.reg⟩

/-- Whatever an event about another connection (or the clock) is — arbitrary bytes, unknown / oversized /
    undersized frames, unauthorised requests, redundant (un)subscribes, an abrupt disconnect, a verdict,
    a timer — connection `d` keeps every field of its record, except that OP_PUBLISH frames may have been
    appended to its action log (only while it is open) and that it may have been forgotten (only if it
    was already closing).  In particular it is not closed, not crashed, not paused, its buffer, identity,
    ACLs, pending look-ups and deadline are untouched. -/
theorem untouched_by_others (cfg : Cfg) (s : State) (e : Event) (d : Nat) (y : Conn)
    (hd : e.target ≠ some d) (hy : s.conn d = some y) :
    ∃ y' extra, (step cfg s e).conn d = some y' ∧
      y' = { y with out := y.out ++ extra, active := y'.active, registered := y'.registered,
                    lostAs := y'.lostAs } ∧
      (∀ en ∈ extra, IsPubWrite en) ∧ (y.closing = true → extra = []) ∧
      (∀ ch ∈ y'.active, ch ∈ y.active) ∧
      ((y'.registered = y.registered ∧ y'.active = y.active) ∨ (y.closing = true ∧ y'.registered = false)) :=
  stepF_none cfg s e ▸ untouched_by_others_under_faults (fun _ => false) cfg s e d y hd rfl hy

/-- … in particular it is not closed by the broker, whatever fails elsewhere -/
theorem closing_is_own_under_faults (F : Nat → Bool) (cfg : Cfg) (s : State) (e : Event) (d : Nat) (y : Conn)
    (hd : e.target ≠ some d) (hF : F d = false) (hy : s.conn d = some y) :
    ∃ y', (stepF F cfg s e).conn d = some y' ∧ y'.closing = y.closing ∧ y'.gone = y.gone ∧
      y'.paused = y.paused ∧ y'.ak = y.ak := by
  obtain ⟨y', hy', extra, r, _, _⟩ := others_stepF F cfg s e d y hd hF hy
  refine ⟨y', hy', ?_, ?_, ?_, ?_⟩ <;> rw [r.eq]

/-- The broker never disconnects a connection because of somebody else's event: `closing` (and `gone`)
    of `d` are unchanged. -/
theorem closing_is_own (cfg : Cfg) (s : State) (e : Event) (d : Nat) (y : Conn)
    (hd : e.target ≠ some d) (hy : s.conn d = some y) :
    ∃ y', (step cfg s e).conn d = some y' ∧ y'.closing = y.closing ∧ y'.gone = y.gone ∧
      y'.paused = y.paused ∧ y'.ak = y.ak :=
  stepF_none cfg s e ▸ closing_is_own_under_faults (fun _ => false) cfg s e d y hd rfl hy

theorem open_stays_subscribed_at (cfg : Cfg) (s : State) (e : Event) (d : Nat) (y : Conn)
    (hd : e.target ≠ some d) (hy : s.conn d = some y) (ho : y.closing = false) :
    ∃ y', (step cfg s e).conn d = some y' ∧ y'.registered = y.registered ∧ y'.active = y.active := by
  obtain ⟨y', hy', extra, r, _, _⟩ := others_step cfg s e d y hd hy
  rcases r.reg with ⟨h, ha⟩ | ⟨h, _⟩
  · exact ⟨y', hy', h, ha⟩
  · rw [ho] at h; cases h

/-- An open, registered connection stays registered with all its subscriptions whatever the others do
    (the forced `connection_lost` in `Server.publish` only ever hits a connection that is already
    closing).  In any state (`open_stays_subscribed_at`); said here of the reachable ones. -/
theorem open_stays_subscribed (cfg : Cfg) (es : List Event) (e : Event) (d : Nat) (y : Conn)
    (hd : e.target ≠ some d) (hy : (run cfg es).conn d = some y) (ho : y.closing = false) :
    ∃ y', (step cfg (run cfg es) e).conn d = some y' ∧ y'.registered = y.registered ∧
      y'.active = y.active :=
  open_stays_subscribed_at cfg (run cfg es) e d y hd hy ho

/-- Nothing but OP_PUBLISH frames is ever appended to `d`'s log by somebody else's event: no OP_ERROR,
    no close, no crash mark. -/
theorem only_publishes_from_others (cfg : Cfg) (s : State) (e : Event) (d : Nat) (y : Conn)
    (hd : e.target ≠ some d) (hy : s.conn d = some y) :
    ∃ y' extra, (step cfg s e).conn d = some y' ∧ y'.out = y.out ++ extra ∧ ∀ en ∈ extra, IsPubWrite en := by
  obtain ⟨y', hy', extra, r, hp, _⟩ := others_step cfg s e d y hd hy
  exact ⟨y', extra, hy', r.out, hp⟩

/-! What the well-behaved connection is entitled to is delivered exactly, whatever else is going on:
    C01.delivery_log / exactly_entitled / common_order hold for ALL histories, adversarial ones included.
    Handling any chunk terminates: `Broker.step` is a total function; `Broker.loop` is defined by
    well-founded recursion on the buffer length, without fuel, its termination proof resting on
    `header_ok` (`5 ≤ ml`, fix D1 — `Legacy.d1_no_progress` is the pinned decoder's counter-example). -/

/-! ### A destination's transport refuses a write inside `Server.publish`

C10 names the mechanism: "`Server.publish` wraps each destination write in try/except and closes only that
destination".  `Model/BrokerFault.lean` extends the model by exactly that `except` branch (`F d` = the transport
of `d` raises in `write()` during this event).  The statements hold in EVERY state, for EVERY fault set. -/

/-- The extension without faults IS the model all other theorems are about: nothing above is weakened by it, and
    the driver, which executes `stepF` for histories with injected faults, executes `step` for all others. -/
theorem no_fault_is_the_model (cfg : Cfg) (s : State) (e : Event) : stepF (fun _ => false) cfg s e = step cfg s e :=
  stepF_none cfg s e

/-- FAULT ISOLATION.  Whatever set of destinations fails, the record of every connection whose own transport did
    not refuse the write — its action log (hence: the copy of this message it is owed, exactly once, in order,
    byte-identical), whether it is closing, its registration and subscriptions, everything — is EXACTLY what the
    fault-free broker leaves there.  The publisher is such a connection too: it is not crashed or closed. -/
theorem write_fault_isolated (F : Nat → Bool) (s : State) (src : Nat) (x : Conn) (ident ch p : Bytes) (d : Nat)
    (hF : F d = false) :
    (publishF F s src x ident ch p).conn d = (publish s src x ident ch p).conn d := by
  rw [← publishF_none, publishF_conn, publishF_conn, hF]

/-- The faulty destination itself (open and subscribed): it is closed — the first `transport.close()` is logged at
    this instant — it is written nothing, and nothing else of its record changes ("closes only that destination"). -/
theorem write_fault_closes_that_destination (F : Nat → Bool) (s : State) (src : Nat) (x : Conn) (ident ch p : Bytes)
    (d : Nat) (y : Conn) (hF : F d = true) (hy : s.conn d = some y) (hd : d ∈ s.subs ch) (ho : y.closing = false) :
    (publishF F s src x ident ch p).conn d = some { y.beginClose with out := y.out ++ [(s.now, .close)] } := by
  rw [publishF_conn, if_pos hd, hy, hF]
  simp [Conn.fanout, ho]

/-- A faulty destination that is NOT subscribed to the channel is not touched at all. -/
theorem write_fault_elsewhere_is_harmless (F : Nat → Bool) (s : State) (src : Nat) (x : Conn) (ident ch p : Bytes)
    (d : Nat) (hd : d ∉ s.subs ch) :
    (publishF F s src x ident ch p).conn d = s.conn d :=
  (publishF_conn F s src x ident ch p d).trans (if_neg hd)

/-- The accepted-log entry of a publish under faults lists as recipients exactly the open subscribers whose
    transport took the write; the entitled set (the specification side) is unchanged by faults. -/
theorem write_fault_recipients (F : Nat → Bool) (s : State) (src : Nat) (x : Conn) (ident ch p : Bytes) :
    ∃ a, (publishF F s src x ident ch p).accepted =
        ((s.subs ch).eraseDups.foldl (deliverF F (pubFrame ident ch p)) s).accepted ++ [a] ∧
      a.recips = (recipsOf s ch).filter (fun d => !F d) ∧ a.entitled = s.ids.filter (isOpenSub s ch) := by
  refine ⟨_, rfl, ?_, rfl⟩
  simp only [recipsOf, List.filter_filter]
  apply List.filter_congr
  intro d _
  cases s.conn d with
  | none => simp
  | some y => simp [Bool.and_comm]

/-- The registry invariant — registry ⇄ `active_subscriptions`, no stale entry, no duplicate — holds after EVERY
    history with write faults (any fault set per event, any store contents per event): the crash path "publish
    meets a registry entry of a forgotten connection" stays unreachable, so a later publisher is never the victim
    of somebody else's broken transport. -/
theorem registry_survives_write_faults (cfg : Cfg) (es : List (Store × List Nat × Event)) : Reg (runF cfg es) :=
  reg_runF cfg es

/-- "… or lose, duplicate, reorder or corrupt a message that connection is entitled to", UNDER WRITE FAULTS, for EVERY
    history (any fault set and any store contents per event) and EVERY connection: the OP_PUBLISH frames written to it
    so far are exactly, in order, once each, the accepted publishes that list it as a recipient (C01.delivery_log,
    verbatim) — whatever other transports broke meanwhile. -/
theorem delivery_log_under_faults (cfg : Cfg) (es : List (Store × List Nat × Event)) (d : Nat) (y : Conn)
    (hy : (runF cfg es).conn d = some y) : pubFrames y.out = delivered (runF cfg es).accepted d :=
  (delivF_runF cfg es).log d y hy

/-- … and every accepted publish was written to connections entitled to it only, once each, each of which had passed
    the subscribe ACL for the channel; it names the ident its sender was authenticated as and a channel on that
    identity's publish list (C01.exactly_entitled / C03 / C04 with `recips ⊆ entitled` instead of `=`: the entitled
    connections that are missing are exactly those whose own transport refused the write, `write_fault_recipients`). -/
theorem accepted_sound_under_faults (cfg : Cfg) (es : List (Store × List Nat × Event)) (a : Accepted)
    (ha : a ∈ (runF cfg es).accepted) :
    a.recips.Nodup ∧ (∀ d, d ∈ a.recips → d ∈ a.entitled) ∧ a.grantedOk = true ∧ a.srcAk = some a.ident ∧
      a.chan ∈ a.srcPubchans :=
  let k := (delivF_runF cfg es).acc a ha
  ⟨k.nodup, k.sub, k.granted, k.ident, k.chan⟩

/-- a closing connection has been written no OP_PUBLISH since it began closing — also when it is closing because its
    own transport refused a write -/
theorem no_publish_after_close_under_faults (cfg : Cfg) (es : List (Store × List Nat × Event)) (d : Nat) (y : Conn)
    (hy : (runF cfg es).conn d = some y) (hc : y.closing = true) : y.pubsAtClose = some (pubFrames y.out) :=
  ((delivF_runF cfg es).conn d y hy).atClose hc

/-! non-vacuity (kernel-evaluated): the C01 example history (connections 1 and 2 subscribed to "c", 1 publishes),
    with connection 2's transport refusing the write: 2 is closed and written nothing, the publisher still gets its
    own copy, and the accepted entry records recipient [1] of the entitled [1, 2]. -/
def exFaulty : List (Store × List Nat × Event) :=
  (C01.exHistory.dropLast.map fun e => (C01.exCfg.store, [], e)) ++ [(C01.exCfg.store, [2], .data 1 C01.exPub)]
example : ((runF C01.exCfg exFaulty).conn 2).map (fun y => (y.closing, pubFrames y.out, y.out.getLast?.map (·.2))) =
    some (true, [], some .close) := by decide +kernel
example : ((runF C01.exCfg exFaulty).conn 1).map (fun y => (y.closing, pubFrames y.out)) =
    some (false, [pubFrame [97] [99] [7]]) := by decide +kernel
example : (runF C01.exCfg exFaulty).accepted.map (fun a => (a.recips, a.entitled)) = [([1], [1, 2])] := by
  decide +kernel

example := @Legacy.d2_stale_entry
example := @Legacy.d1_no_progress

end Hpfeeds.C10
