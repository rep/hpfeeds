/-
  C04 — a connection only ever receives channels its identity may subscribe to.
-/
import Hpfeeds.Lemmas.BrokerFrame
import Hpfeeds.Lemmas.BrokerDeliv
import Hpfeeds.Lemmas.BrokerMono
namespace Hpfeeds.C04
open Hpfeeds Hpfeeds.Broker Extracted

/-- In every reachable state an active subscription was granted by the ACL (`granted` = channels for
    which a SUBSCRIBE was processed while the connection was authenticated as an identity whose subscribe
    list contained it; it only grows, in `noteSub`) — or the connection is closing. -/
theorem granted_only (cfg : Cfg) (es : List Event) (c : Nat) (x : Conn) (ch : Bytes)
    (hx : (run cfg es).conn c = some x) (hch : ch ∈ x.active) : ch ∈ x.granted ∨ x.closing = true :=
  ((deliv_run cfg es).conn c x hx).granted ch hch

/-- Every recipient of every accepted publish, in every history, had passed the subscribe ACL for that
    channel (`grantedOk` is the model's own check at the moment of the fan-out, over all recipients). -/
theorem recipients_granted (cfg : Cfg) (es : List Event) (a : Accepted) (ha : a ∈ (run cfg es).accepted) :
    a.grantedOk = true :=
  ((deliv_run cfg es).acc a ha).granted

/-- Once a connection is closing (its own offence, the peer's EOF, a crash, the deadline — any reason),
    no OP_PUBLISH is ever written to it again, under EVERY continuation of the history: whatever is
    still buffered, whatever other connections publish while the transport has not yet reported the
    loss, and whether or not the transport would still transmit writes. -/
theorem no_publish_after_close (cfg : Cfg) (es es' : List Event) (c : Nat) (x : Conn)
    (hx : (run cfg es).conn c = some x) (hc : x.closing = true) :
    ∃ y, (run cfg (es ++ es')).conn c = some y ∧ y.closing = true ∧ pubFrames y.out = pubFrames x.out := by
  -- `pubsAtClose` is what had been written when closing began: it is kept, and it is still all there is
  obtain ⟨y, hy, m⟩ := mono_run_append cfg es es' hx
  have e := ((deliv_run cfg (es ++ es')).conn c y hy).atClose (m.closing hc)
  rw [m.atClose hc, ((deliv_run cfg es).conn c x hx).atClose hc] at e
  exact ⟨y, hy, m.closing hc, (Option.some.inj e).symm⟩

/-- An OP_SUBSCRIBE outside the subscribe list: OP_ERROR and close.  The request is registered by the
    code (there is no `return` after the error), but the connection is closing from this very step on,
    so by `no_publish_after_close` it never results in any delivery. -/
theorem forbidden_subscribe (cfg : Cfg) (s : State) (c : Nat) (x : Conn) (f : Frame) (ident ch : Bytes)
    (hx : s.conn c = some x) (hauth : x.ak ≠ none) (hreg : x.registered = true)
    (hf : read f = some (.ok (.subscribe ident ch))) (hbad : ch ∉ x.subchans) :
    messageReceived cfg s c f = (doSubscribe (errorClose s c) c ch false, .cont) ∧
    (∀ y, (errorClose s c).conn c = some y → y.closing = true) := by
  refine ⟨Broker.forbidden_subscribe cfg s c x f ident ch hx hauth hreg hf hbad, ?_⟩
  intro y hy
  rw [errorClose_conn_eq hx] at hy; cases hy; rfl

/-! non-vacuity (kernel-evaluated): connection 2 subscribes to a channel outside its list while
    connection 1 keeps publishing on it; 2 is closing, its transport has not reported the loss, and it
    has received nothing. -/
def exRowA : Row := ⟨[115], [111], [[99]], [[99]]⟩
def exRowB : Row := ⟨[115], [111], [], []⟩
def exCfg : Cfg := ⟨[104], .sync (fun i => if i = [97] then some exRowA else if i = [98] then some exRowB else none), id⟩
def exAuth (i : UInt8) (n : Bytes) : Bytes := [0,0,0,12,2,1,i] ++ n ++ [115]
def exSubB : Bytes := [0,0,0,8,4,1,98,99]
def exPub : Bytes := [0,0,0,10,3,1,97,1,99,7]
def exHistory : List Event :=
  [.connect 1 [1,2,3,4], .connect 2 [5,6,7,8], .data 1 (exAuth 97 [1,2,3,4]),
   .data 2 (exAuth 98 [5,6,7,8] ++ exSubB), .data 1 exPub, .data 1 exPub]
example : ((run exCfg exHistory).conn 2).map (fun y => (y.closing, y.gone, pubFrames y.out)) =
    some (true, false, []) ∧ (run exCfg exHistory).accepted.length = 2 := by decide +kernel

end Hpfeeds.C04
