/-
  C08 — subscription state follows the last (un)subscribe; repeats are idempotent.
-/
import Hpfeeds.Lemmas.BrokerSession
import Hpfeeds.Legacy
namespace Hpfeeds.C08
open Hpfeeds Hpfeeds.Broker Extracted

/-- In every reachable state, for a connection the broker still knows: it holds a subscription to `ch`
    IFF the most recent OP_SUBSCRIBE / OP_UNSUBSCRIBE it had processed for `ch` was a SUBSCRIBE
    (`lastReq` = the processed requests, newest first; per-connection sequences of any length). -/
theorem follows_last_request (cfg : Cfg) (es : List Event) (c : Nat) (x : Conn) (ch : Bytes)
    (hx : (run cfg es).conn c = some x) (hr : x.registered = true) :
    ch ∈ x.active ↔ lastFor x.lastReq ch = some true :=
  last_run cfg es c x hx hr ch

/-- ... and delivery is decided by exactly that: `c` is a recipient of an accepted publish on `ch` iff
    it held the subscription and was open (C01.exactly_entitled), and the registry holds it at most once
    however many SUBSCRIBEs it sent — one copy per message. -/
theorem registry_once (cfg : Cfg) (es : List Event) (ch : Bytes) :
    ((run cfg es).subs ch).Nodup ∧
    ∀ c, c ∈ (run cfg es).subs ch ↔ ∃ x, (run cfg es).conn c = some x ∧ ch ∈ x.active :=
  ⟨(reg_run cfg es).subs_nodup ch, fun c => (reg_run cfg es).sub_iff ch c⟩

/-- A repeated SUBSCRIBE changes nothing in the registry, the gauges or any record except the ghost
    bookkeeping: `Server.subscribe` is a no-op. -/
theorem repeated_subscribe_noop (s : State) (c : Nat) (ch : Bytes) (x : Conn)
    (hx : s.conn c = some x) (hin : ch ∈ x.active) : subscribe s c ch = s :=
  subscribe_noop hx hin

/-- After an UNSUBSCRIBE has been processed the connection is not subscribed, however many SUBSCRIBEs
    preceded it (in any reachable state). -/
theorem after_unsubscribe (cfg : Cfg) (es : List Event) (c : Nat) (ch : Bytes) (x : Conn)
    (hx : (run cfg es).conn c = some x) :
    ∃ y, (doUnsubscribe (run cfg es) c ch).conn c = some y ∧ ch ∉ y.active ∧
      c ∉ (doUnsubscribe (run cfg es) c ch).subs ch := by
  have hr := reg_run cfg es
  -- erasing once removes the channel: the subscription list has no duplicates
  have hgone : ch ∉ x.active.erase ch := fun hm => ((List.Nodup.mem_erase_iff (hr.act_nodup c x hx)).mp hm).1 rfl
  have hc := doUnsubscribe_conn ch hx
  exact ⟨_, hc, hgone, fun hm => hgone (((reg_doUnsubscribe c ch hr).mem_subs hc ch).mp hm)⟩

/-- An UNSUBSCRIBE for a channel that is not subscribed is a harmless no-op: `Server.unsubscribe`
    returns the state unchanged (registry, gauges, every record). -/
theorem unsubscribe_not_subscribed_noop (s : State) (c : Nat) (ch : Bytes) (x : Conn)
    (hx : s.conn c = some x) (hin : ch ∉ x.active) : unsubscribe s c ch = s :=
  unsubscribe_noop hx hin

/-- A later SUBSCRIBE resumes delivery: after it the connection holds the subscription (once). -/
theorem subscribe_resumes (s : State) (c : Nat) (ch : Bytes) (ok : Bool) (x : Conn)
    (hx : s.conn c = some x) :
    ∃ y, (doSubscribe s c ch ok).conn c = some y ∧ ch ∈ y.active :=
  ⟨_, doSubscribe_conn ch ok hx, mem_addNew.mpr (.inr rfl)⟩

/-! The pinned tree violated this (fix D2): kernel-checked witnesses on the pinned registry. -/
example := @Legacy.d2_still_subscribed

/-! non-vacuity (kernel-evaluated): SUB, SUB, SUB, UNSUB, publish → nothing; SUB → publish delivered once -/
def exRow : Row := ⟨[115], [111], [[99]], [[99]]⟩
def exCfg : Cfg := ⟨[104], .sync (fun i => if i = [97] then some exRow else none), id⟩
def exAuth (n : Bytes) : Bytes := [0,0,0,12,2,1,97] ++ n ++ [115]
def exSub : Bytes := [0,0,0,8,4,1,97,99]
def exUnsub : Bytes := [0,0,0,8,5,1,97,99]
def exPub : Bytes := [0,0,0,10,3,1,97,1,99,7]
def exH : List Event :=
  [.connect 1 [1,2,3,4], .connect 2 [5,6,7,8], .data 2 (exAuth [5,6,7,8]), .data 1 (exAuth [1,2,3,4]),
   .data 1 (exSub ++ exSub ++ exSub ++ exUnsub), .data 2 exPub]
example : ((run exCfg exH).conn 1).map (fun y => (y.active, pubFrames y.out)) = some ([], []) := by
  decide +kernel
example : ((run exCfg (exH ++ [.data 1 (exSub ++ exSub), .data 2 exPub])).conn 1).map
    (fun y => (y.active, pubFrames y.out)) = some ([[99]], [pubFrame [97] [99] [7]]) := by decide +kernel

end Hpfeeds.C08
