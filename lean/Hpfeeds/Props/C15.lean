/-
  C15 — slow consumers are dropped after the grace period, recovered ones are not.
  Virtual time in milliseconds.  `pause c` / `resume c` are asyncio's pause_writing / resume_writing
  (that asyncio calls them when the outgoing buffer crosses the high- and low-water marks is library
  behaviour, exercised by the check's real-socket run, not proved).  `fire c` is the deadline timer's
  callback; the event-loop contract (`Valid`) says a due timer fires before the clock moves on.
-/
import Hpfeeds.Lemmas.BrokerTime
namespace Hpfeeds.C15
open Hpfeeds Hpfeeds.Broker Extracted

/-- Every stall episode gets a full new grace period, whatever happened before. -/
theorem fresh_grace (cfg : Cfg) (s : State) (c : Nat) (x : Conn) (hx : s.conn c = some x) :
    ∃ y, (step cfg s (.pause c)).conn c = some y ∧ y.deadline = some (s.now + gracePeriodMs) ∧
      y.closing = x.closing :=
  ⟨_, logAct_conn_self (upd_conn_self hx), rfl, rfl⟩

/-- If the buffer drains, the deadline is disarmed and nothing else happens to the connection. -/
theorem recovered_not_dropped (cfg : Cfg) (s : State) (c : Nat) (x : Conn) (hx : s.conn c = some x) :
    ∃ y, (step cfg s (.resume c)).conn c = some y ∧ y.deadline = none ∧ y.closing = x.closing := by
  simp only [step, hx]
  by_cases hd : x.deadline.isSome = true
  · rw [if_pos hd]
    exact ⟨_, logAct_conn_self (upd_conn_self hx), rfl, rfl⟩
  · rw [if_neg hd]
    exact ⟨x, hx, Option.not_isSome_iff_eq_none.mp hd, rfl⟩

/-- The timer callback drops the connection — OP_ERROR, then close, stamped with the current time — and
    only if the deadline is armed and due; otherwise it does nothing at all. -/
theorem fire_iff_due (cfg : Cfg) (s : State) (c : Nat) (x : Conn) (hx : s.conn c = some x) :
    (∀ t, x.deadline = some t → t ≤ s.now →
      step cfg s (.fire c) = errorClose (clearDeadline s c .deadlineFired) c) ∧
    ((x.deadline = none ∨ ∃ t, x.deadline = some t ∧ s.now < t) → step cfg s (.fire c) = s) := by
  constructor
  · intro t ht hle
    simp [step, hx, ht, hle]
  · rintro (h | ⟨t, ht, hlt⟩)
    · simp [step, hx, h]
    · have : ¬ t ≤ s.now := by omega
      simp [step, hx, ht, this]

/-- In every history: an armed deadline is exactly "the time of the last pause_writing that has not been
    followed by a resume_writing or an expiry" plus 60 s (the action log carries ghost marks for those
    three events) — so a drop can only ever be the consequence of a stall that lasted since then. -/
theorem deadline_is_last_stall (cfg : Cfg) (es : List Event) (c : Nat) (x : Conn)
    (hx : (run cfg es).conn c = some x) :
    x.deadline = (armedSince x.out).map (· + gracePeriodMs) :=
  dl_run cfg es c x hx

/-- Not earlier, and not later: under the event-loop contract, in every valid history, an armed deadline
    `t` satisfies `now ≤ t` — the clock cannot pass a stalled connection's deadline while it is still
    armed (it is disarmed only by a resume or by the drop itself); and when the timer fires (`t ≤ now`)
    it is therefore exactly `now = t`. -/
theorem dropped_exactly_at_deadline (cfg : Cfg) (es : List Event) (hv : Valid cfg es) (c : Nat) (x : Conn) (t : Nat)
    (hx : (run cfg es).conn c = some x) (ht : x.deadline = some t) :
    (run cfg es).now ≤ t ∧
    (okEvent cfg (run cfg es) (.fire c) = true → (run cfg es).now = t ∧
      step cfg (run cfg es) (.fire c) = errorClose (clearDeadline (run cfg es) c .deadlineFired) c) := by
  have h1 := noOverrun_run cfg es hv c x hx t ht
  refine ⟨h1, fun hok => ?_⟩
  simp only [okEvent, hx, ht, decide_eq_true_eq] at hok
  exact ⟨Nat.le_antisymm h1 hok, (fire_iff_due cfg (run cfg es) c x hx).1 t ht hok⟩

/-- While a deadline is due nothing else can happen first (the contract again): every other event is
    refused until the timer has fired, so the drop is not delayed by other traffic. -/
theorem due_timer_fires_first (cfg : Cfg) (s : State) (c : Nat) (x : Conn) (t : Nat) (e : Event)
    (hc : c ∈ s.ids) (hx : s.conn c = some x) (ht : x.deadline = some t) (hdue : t ≤ s.now)
    (hok : okEvent cfg s e = true) : (∃ d, e = .fire d) ∨ (∃ ms, e = .advance ms ∧ ms = 0 ∧ t = s.now) := by
  have hnd : noDue s = false := by
    unfold noDue
    rw [List.all_eq_false]
    refine ⟨c, hc, ?_⟩
    rw [hx]; simp only [ht]
    simp; omega
  cases e with
  | fire d => exact Or.inl ⟨d, rfl⟩
  | advance ms =>
    right
    simp only [okEvent, List.all_eq_true] at hok
    have := hok c hc
    rw [hx] at this
    simp only [ht, decide_eq_true_eq] at this
    exact ⟨ms, rfl, by omega, by omega⟩
  | _ => simp [okEvent, hnd] at hok   -- every other event asks for `noDue`

/-- Other subscribers keep receiving throughout: the stall / drop of `c` is an event about `c` only
    (C10.untouched_by_others), and C01's delivery theorems hold for all histories.  On a successful AUTH
    the broker sets the high-water mark to 50 maximal PUBLISH frames. -/
theorem high_water_mark : limit OP_PUBLISH * highWaterFactor = (5 + MAXBUF) * 50 := by decide

/-- the grace period the model uses is the literal of `pause_writing`'s deadline task, regenerated from the source on
    every run (`Extracted.GRACE_MS`); the property fixes it at 60 seconds -/
theorem grace_is_sixty_seconds : gracePeriodMs = 60000 := by decide

/-! non-vacuity (kernel-evaluated): stall at t=0; at 59 999 ms still connected; the clock reaches 60 000,
    the timer fires: ERROR + close stamped 60 000; a recovered connection is not dropped and a later
    episode counts from its own start. -/
def exCfg : Cfg := ⟨[104], .async, id⟩
example : Valid exCfg [.connect 1 [1,2,3,4], .pause 1, .advance 59999] ∧
    ((run exCfg [.connect 1 [1,2,3,4], .pause 1, .advance 59999]).conn 1).map (·.closing) = some false := by
  decide +kernel
example : Valid exCfg [.connect 1 [1,2,3,4], .pause 1, .advance 60000, .fire 1] ∧
    ((run exCfg [.connect 1 [1,2,3,4], .pause 1, .advance 60000, .fire 1]).conn 1).map
      (fun y => (y.closing, y.out.drop 2)) =
      some (true, [(60000, .deadlineFired), (60000, .write errFrame), (60000, .close)]) := by decide +kernel
example : ¬ Valid exCfg [.connect 1 [1,2,3,4], .pause 1, .advance 60001] := by decide +kernel
example : Valid exCfg [.connect 1 [1,2,3,4], .pause 1, .advance 50000, .resume 1, .advance 50000, .pause 1, .advance 59999] ∧
    ((run exCfg [.connect 1 [1,2,3,4], .pause 1, .advance 50000, .resume 1, .advance 50000, .pause 1,
        .advance 59999]).conn 1).map (fun y => (y.closing, y.deadline)) = some (false, some 160000) := by
  decide +kernel

end Hpfeeds.C15
