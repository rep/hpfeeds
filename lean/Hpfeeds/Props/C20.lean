/-
  C20 — blocking write path: whole frames, FIFO, no loss under partial sends; the wake-up queue is
  select()-readable exactly when it holds an item and hands items out in FIFO order.

  Model/BlkSession.lean is the reactor + thread session, Model/PollQueue.lean the queue on its own.  The
  quantifier "every sequence of frames, every sequence of send() outcomes (any accepted count, EAGAIN /
  EWOULDBLOCK at any point), every interleaving of producer threads with the reactor thread" is `∀ es`:
  the send outcome is an argument of each `sel` event and every application write is three events that
  interleave freely with everything else.

  What the model cannot exhibit (DESIGN.md, C20): preemption inside one of those steps (bytecode level;
  the line-level schedule search of the check covers the code's own statements), a send() that blocks on a
  full socket pair, errors other than EAGAIN/EWOULDBLOCK from send().
-/
import Hpfeeds.Lemmas.BlkSession
import Hpfeeds.Lemmas.PollQueue
namespace Hpfeeds.C20
open Hpfeeds Extracted

section Reactor
open Hpfeeds.BlkSession

/-- After ANY event sequence: the bytes the socket of the current connection has accepted, followed by
    the reactor's buffer, followed by the frames still queued, are exactly the frames put into that
    connection's outbox, in queue order — complete, once each, never interleaved, truncated or repeated. -/
theorem wire_exact (cfg : Cfg) (es : List Ev) :
    (run cfg es).1.wire ++ (run cfg es).1.buffer ++ (run cfg es).1.items.flatten = (run cfg es).1.enq.flatten :=
  (run_inv cfg es).w.bytes

/-- … so what reached the socket is always a prefix of the queued frames' concatenation -/
theorem wire_prefix (cfg : Cfg) (es : List Ev) : (run cfg es).1.wire <+: (run cfg es).1.enq.flatten :=
  ⟨(run cfg es).1.buffer ++ (run cfg es).1.items.flatten, by rw [← List.append_assoc]; exact wire_exact cfg es⟩

/-- … and when the buffer and the outbox are empty, everything that was written has reached the socket -/
theorem drained (cfg : Cfg) (es : List Ev) (hb : (run cfg es).1.buffer = []) (hi : (run cfg es).1.items = []) :
    (run cfg es).1.wire = (run cfg es).1.enq.flatten :=
  (run_inv cfg es).w.drained hb hi

/-- No loss under partial sends, as bounded progress.  From ANY reachable state of a connection with
    nothing to read and no put half-way, ANY sequence of rounds in which every send() accepts at least one
    byte — however few — and that is at least `todo` long (bytes + items still to go) ends with every frame
    queued at its start on the wire, in order. -/
theorem drains (cfg : Cfg) (es : List Ev) (ns : List Nat) (hns : ∀ n ∈ ns, 1 ≤ n)
    (hq : Quiet (run cfg es).1) (hk : todo (run cfg es).1 ≤ ns.length) :
    (run cfg (es ++ ns.map (fun n => Ev.sel (.accept n)))).1.wire = (run cfg es).1.enq.flatten := by
  unfold run
  rw [List.foldl_append]
  exact quiet_drains cfg ns hns (run cfg es) (run_inv cfg es).w hq hk

/-- The observable form.  Over ANY event sequence, the bytes the model's OUTPUT shows accepted by the socket
    of the current connection — what the correspondence check compares, round by round, with what the real
    scripted socket accepted — are exactly `wire`; so `wire_exact` / `wire_prefix` / `drains` speak about the
    bytes arriving at the peer end of the socket.  (The frames put into the outbox, the ghost `enq`, are
    compared with the implementation's true queue order after every event as length + hash.) -/
theorem wire_is_observable (cfg : Cfg) (es : List Ev) :
    bytesOn (run cfg es).1.gen (run cfg es).2 = (run cfg es).1.wire ∧
    bytesOn (run cfg es).1.gen (run cfg es).2 <+: (run cfg es).1.enq.flatten :=
  ⟨(obs_run cfg es).sent.gb.cur, by rw [(obs_run cfg es).sent.gb.cur]; exact wire_prefix cfg es⟩

/-- one round: what send() accepted leaves the buffer from the front and is appended to the wire; EAGAIN /
    EWOULDBLOCK changes nothing -/
theorem send_partial (s : State) (n : Nat) (hc : s.sockClosed = false) (hn : min n s.buffer.length ≠ 0) :
    (writeReady s (.accept n)).1.wire = s.wire ++ s.buffer.take (min n s.buffer.length) ∧
    (writeReady s (.accept n)).1.buffer = s.buffer.drop (min n s.buffer.length) := by
  rw [writeReady_accept hc hn]; exact ⟨rfl, rfl⟩
theorem send_again (s : State) (hc : s.sockClosed = false) : writeReady s .again = (s, []) := by
  simp [writeReady, hc]

/-- the outbox's wake-up accounting under every interleaving: items = wake-up bytes + puts half-way; the
    puts half-way are exactly the application threads sitting between the two halves of a put on it -/
theorem outbox_accounting (cfg : Cfg) (es : List Ev) :
    (run cfg es).1.items.length = (run cfg es).1.wake + (run cfg es).1.mid ∧
    ∃ S : List Nat, S.Nodup ∧ (∀ t, t ∈ S ↔ (run cfg es).1.thr t = .midPut (run cfg es).1.gen) ∧
      (run cfg es).1.mid = S.length :=
  ⟨(run_inv cfg es).q.count, (run_inv cfg es).q.mids⟩

/-- hence: select()-readable implies an item; with no put half-way, readable exactly when non-empty -/
theorem outbox_readable_iff (cfg : Cfg) (es : List Ev)
    (hq : ∀ t, (run cfg es).1.thr t ≠ .midPut (run cfg es).1.gen) :
    (0 < (run cfg es).1.wake ↔ (run cfg es).1.items ≠ []) :=
  (run_inv cfg es).q.readable_iff hq

/-! non-vacuity (kernel-evaluated, hash := id): two application writes on a ready connection, sends of 3
    bytes, EAGAIN, 1 byte, then everything: wire = AUTH ++ PUB ++ SUB (thread 2 puts first), nothing left -/
def exCfg : Cfg := { ident := [109], secret := [115], H := id }
def exInfo : Bytes := [0,0,0,12,1,2,104,112,9,8,7,6]
def exEvs : List Ev :=
  [.connect, .inb exInfo, .sel .again, .wBegin 1 (.sub [99]), .wBegin 2 (.pub [99] [1,2]), .wCheck 2, .wCheck 1,
   .sel (.accept 3), .wWake 1, .sel .again, .sel (.accept 1), .wWake 2, .sel (.accept 1000), .sel (.accept 1000),
   .sel (.accept 1000)]
example : (run exCfg exEvs).1.wire = authFrame exCfg [9,8,7,6] ++ pubFrame exCfg [99] [1,2] ++ subFrame exCfg [99] ∧
    (run exCfg exEvs).1.buffer = [] ∧ (run exCfg exEvs).1.items = [] := by decide +kernel
example : Quiet (run exCfg [.connect, .inb exInfo, .sel .again]).1 :=
  ⟨by decide +kernel, by decide +kernel, by decide +kernel, by decide +kernel, by decide +kernel, by decide +kernel,
   by decide +kernel⟩

end Reactor

section Queue
open Hpfeeds.PollQueue

/-- Under EVERY interleaving of the half-steps of put and get by any number of producers and consumers:
    the number of items equals wake-up bytes + puts half-way + gets half-way. -/
theorem queue_inv {α : Type} (es : List (Ev α)) :
    (run ({} : State α) es).items.length = (run ({} : State α) es).wake + (run ({} : State α) es).midPut + (run ({} : State α) es).midGet :=
  (inv_run _ es inv_init).count

/-- select()-readable (a wake-up byte is there) implies an item is there, at every moment -/
theorem readable_nonempty {α : Type} (es : List (Ev α)) (h : readable (run ({} : State α) es) = true) :
    (run ({} : State α) es).items ≠ [] :=
  (inv_run _ es inv_init).nonempty_of_readable h

/-- whenever no put and no get is half-way: readable exactly when it holds at least one item -/
theorem readable_iff {α : Type} (es : List (Ev α)) (hp : (run ({} : State α) es).midPut = 0)
    (hg : (run ({} : State α) es).midGet = 0) :
    (readable (run ({} : State α) es) = true ↔ (run ({} : State α) es).items ≠ []) :=
  (inv_run _ es inv_init).readable_iff hp hg

/-- a get that has consumed its wake-up byte always finds an item (queue.Queue.get(block=False) never
    raises Empty), and items leave in the order they were put: handed out ++ still queued = put -/
theorem fifo_no_loss {α : Type} (es : List (Ev α)) :
    (run ({} : State α) es).deqLog ++ (run ({} : State α) es).items = (run ({} : State α) es).enqLog ∧
    (run ({} : State α) es).emptyErr = 0 :=
  ⟨(inv_run _ es inv_init).fifo, (inv_run _ es inv_init).noErr⟩

/-! non-vacuity: two producers interleaved with a consumer -/
example : (run ({} : State Nat) [.enq 1, .enq 2, .wake, .recv, .wake, .deq, .recv, .deq]).deqLog = [1, 2] := by
  decide
example : readable (run ({} : State Nat) [.enq 1]) = false ∧ (run ({} : State Nat) [.enq 1]).midPut = 1 := by decide

end Queue
end Hpfeeds.C20
