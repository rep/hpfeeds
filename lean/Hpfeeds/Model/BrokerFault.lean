/-
  The broker when a destination's `transport.write()` RAISES inside `Server.publish`:

      try:
          dest.publish(source.ak, chan, data)
      except Exception:
          log.exception(...)
          dest.transport.close()

  Real asyncio transports do not raise in `write()`, so the event vocabulary of `Model/Broker.lean` has no such
  event; but the `try/except` is the mechanism C10 names ("wraps each destination write in try/except and closes
  only that destination"), so it is modelled here as an EXTENSION of the proved model:

  * `F : Nat → Bool` says which connections' transports refuse a write during the event being handled;
  * `deliverF` / `publishF` are `deliver` / `publish` with the `except` branch;
  * `messageReceivedG`, `loopG`, `stepG` are the broker's frame handler, frame loop and transition function
    with the fan-out function as a parameter: `stepG publish` IS `step` (`Lemmas/BrokerPres.stepG_publish`, so
    everything proved about `step` is about the fault-free instance of this file) and `stepF F = stepG (publishF F)`
    is what the driver executes for histories with injected write faults.
-/
import Hpfeeds.Model.Broker
namespace Hpfeeds.Broker
open Hpfeeds Extracted

/-- one iteration of the loop in `Server.publish` when `dest.publish` may raise -/
def deliverF (F : Nat → Bool) (f : Frame) (s : State) (d : Nat) : State :=
  match s.conn d with
  | none => s
  | some x =>
    if x.closing then connectionLost s d
    else if F d then closeT s d            -- the write raised: `dest.transport.close()`
    else logAct s d (.write f)

/-- `Server.publish(source, chan, data)` under the write faults `F` -/
def publishF (F : Nat → Bool) (s : State) (src : Nat) (x : Conn) (ident ch p : Bytes) : State :=
  let dests := (s.subs ch).eraseDups
  let f := pubFrame ident ch p
  let s' := dests.foldl (deliverF F f) s
  let recips := dests.filter fun d => match s.conn d with | some y => !y.closing && !F d | none => false
  { s' with accepted := s'.accepted ++ [{
      src := src, ident := ident, chan := ch, payload := p, time := s.now,
      srcAk := x.ak, srcPubchans := x.pubchans,
      recips := recips,
      entitled := s.ids.filter (isOpenSub s ch),
      grantedOk := recips.all fun d => match s.conn d with
        | some y => decide (ch ∈ y.granted) | none => false }] }

/-- the fan-out function as a parameter -/
abbrev Pub := State → Nat → Conn → Bytes → Bytes → Bytes → State

/-- `Connection.message_received` with the fan-out function as a parameter (`messageReceived` = `… publish`) -/
def messageReceivedG (pub : Pub) (cfg : Cfg) (s : State) (c : Nat) (f : Frame) : State × Ctl :=
  match s.conn c with
  | none => (s, .cont)
  | some x =>
    if x.ak = none ∧ f.op.toNat ≠ OP_AUTH then (errorClose s c, .cont)
    else match read f with
    | none => (closeT s c, .brk)
    | some (.error _) => (s, .crash)
    | some (.ok m) =>
      match m with
      | .error _ => (s, .crash)
      | .info _ _ => (s, .crash)
      | .auth ident digest =>
        if !x.registered then (s, .crash)
        else match cfg.store with
          | .sync tbl =>
            let r := match tbl ident with | some row => Lookup.row row | none => Lookup.missing
            ((authenticate cfg s c x ident digest r).1, .cont)
          | .async => (pauseReading (addPending s c ident digest) c, .brk)
      | .publish ident ch p =>
        if some ident ≠ x.ak then (errorClose s c, .cont)
        else if ch ∉ x.pubchans then (errorClose s c, .cont)
        else if !x.registered then (s, .crash)
        else (pub s c x ident ch p, .cont)
      | .subscribe _ ch =>
        let s1 := if ch ∈ x.subchans then s else errorClose s c
        if !x.registered then (s1, .crash)
        else (doSubscribe s1 c ch (decide (ch ∈ x.subchans)), .cont)
      | .unsubscribe _ ch =>
        if !x.registered then (s, .crash)
        else (doUnsubscribe s c ch, .cont)

/-- `process_pending()` with the fan-out function as a parameter -/
def loopG (pub : Pub) (cfg : Cfg) (c : Nat) (s : State) (buf : Bytes) : State × Bytes × Ctl :=
  match h : header buf with
  | .wait => (s, buf, .cont)
  | .bad _ => (closeT s c, buf, .cont)
  | .ok ml op =>
    let r := messageReceivedG pub cfg s c (popFrame buf ml op).1
    match r.2 with
    | .cont => loopG pub cfg c r.1 (popFrame buf ml op).2
    | ctl => (r.1, (popFrame buf ml op).2, ctl)
termination_by buf.length
decreasing_by
  have := header_ok h
  simp only [popFrame, List.length_drop]
  omega

/-- the transition function with the fan-out function as a parameter (`step` = `stepG publish`) -/
def stepG (pub : Pub) (cfg : Cfg) (s : State) : Event → State
  | .data c b =>
    match s.conn c with
    | none => s
    | some x =>
      let r := loopG pub cfg c s (x.buf ++ b)
      let s1 := setBuf r.1 c r.2.1
      if r.2.2 = .crash then crashClose s1 c else s1
  | .lookupDone c i r =>
    match s.conn c with
    | none => s
    | some x =>
      match x.pending[i]? with
      | none => s
      | some (ident, digest) =>
        let s0 := dropPending s c i
        let a := authenticate cfg s0 c x ident digest r
        if a.2 then
          let r := loopG pub cfg c a.1 x.buf
          let s2 := setBuf r.1 c r.2.1
          if r.2.2 = .crash then closeT s2 c
          else if r.2.2 = .brk then s2
          else resumeReading s2 c
        else a.1
  | e => step cfg s e       -- the other events never reach `Server.publish`

/-- one event during which the transports in `F` refuse writes -/
def stepF (F : Nat → Bool) (cfg : Cfg) (s : State) (e : Event) : State := stepG (publishF F) cfg s e

/-- a history in which every event comes with the credential store as it is at that moment AND with the set of
    connections whose transports refuse a write during it -/
def runF (cfg : Cfg) (es : List (Store × List Nat × Event)) : State :=
  es.foldl (fun s e => stepF (fun d => decide (d ∈ e.2.1)) (cfg.withStore e.1) s e.2.2) init

end Hpfeeds.Broker
