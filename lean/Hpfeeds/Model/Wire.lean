/-
  Wire format: frames, headers, the stream decoder (`hpfeeds.protocol.Unpacker`),
  message builders (`msg*`) and field readers (`read*`, `strunpack8`).
  Import-free apart from the generated constants.
-/
import Hpfeeds.Extracted
import Hpfeeds.Model.Bytes
namespace Hpfeeds
open Extracted

structure Frame where
  op : UInt8
  body : Bytes
deriving DecidableEq, Repr, Inhabited

/-- `SIZES.get(opcode, MAXBUF)` -/
def limit (op : Nat) : Nat :=
  match SIZES.lookup op with
  | some n => n
  | none => MAXBUF

/-- `msghdr(op, data)` without the range check of `struct.pack` -/
def enc (f : Frame) : Bytes := be32 (5 + f.body.length) ++ f.op :: f.body

/-- `msghdr(op, data)`: `struct.pack('!iB', 5 + len(data), op)` raises when the length does not fit
    a signed 32-bit integer -/
def msghdr (op : Nat) (data : Bytes) : Option Bytes :=
  if 5 + data.length < 2147483648 ∧ op < 256 then some (enc ⟨UInt8.ofNat op, data⟩) else none

inductive Err
  | unknownOp | tooBig | tooSmall
deriving DecidableEq, Repr

inductive Hdr
  | wait
  | bad (e : Err)
  | ok (ml : Nat) (op : UInt8)
deriving DecidableEq, Repr

/-- `Unpacker.ready()` : inspect the first five bytes of the buffer -/
def header (buf : Bytes) : Hdr :=
  match buf with
  | b0 :: b1 :: b2 :: b3 :: op :: _ =>
    let ml := toSigned (u32 b0 b1 b2 b3)
    if op.toNat < OP_ERROR ∨ op.toNat > OP_UNSUBSCRIBE then .bad .unknownOp
    else if ml > (limit op.toNat : Int) then .bad .tooBig
    else if ml < 5 then .bad .tooSmall
    else if (buf.length : Int) < ml then .wait
    else .ok ml.toNat op
  | _ => .wait

/-- `ready()`'s checks on the five header bytes, before it asks whether the frame has arrived: the
    announced length, or the exception raised -/
def announced (n : Nat) (op : UInt8) : Except Err Nat :=
  if op.toNat < OP_ERROR ∨ op.toNat > OP_UNSUBSCRIBE then .error .unknownOp
  else if toSigned n > (limit op.toNat : Int) then .error .tooBig
  else if toSigned n < 5 then .error .tooSmall
  else .ok (toSigned n).toNat

theorem header_cons (b0 b1 b2 b3 op : UInt8) (t : Bytes) :
    header (b0 :: b1 :: b2 :: b3 :: op :: t) =
      match announced (u32 b0 b1 b2 b3) op with
      | .error e => .bad e
      | .ok ml => if t.length + 5 < ml then .wait else .ok ml op := by
  simp only [header, announced, List.length_cons]
  -- `by_cases`, not `split`: `split` is slow on this chain
  by_cases h1 : op.toNat < OP_ERROR ∨ op.toNat > OP_UNSUBSCRIBE
  · simp only [if_pos h1]
  by_cases h2 : toSigned (u32 b0 b1 b2 b3) > (limit op.toNat : Int)
  · simp only [if_neg h1, if_pos h2]
  by_cases h3 : toSigned (u32 b0 b1 b2 b3) < 5
  · simp only [if_neg h1, if_neg h2, if_pos h3]
  simp only [if_neg h1, if_neg h2, if_neg h3]
  by_cases h4 : t.length + 5 < (toSigned (u32 b0 b1 b2 b3)).toNat
  · rw [if_pos h4, if_pos (by omega)]
  · rw [if_neg h4, if_neg (by omega)]

theorem announced_eq_ok {n : Nat} {op : UInt8} {ml : Nat} :
    announced n op = .ok ml ↔ OP_ERROR ≤ op.toNat ∧ op.toNat ≤ OP_UNSUBSCRIBE ∧ 5 ≤ ml ∧
      ml ≤ limit op.toNat ∧ toSigned n = ml := by
  unfold announced
  split
  · exact ⟨nofun, by omega⟩
  split
  · exact ⟨nofun, by omega⟩
  split
  · exact ⟨nofun, by omega⟩
  rw [Except.ok.injEq]
  omega

theorem header_eq {b0 b1 b2 b3 o : UInt8} {t : Bytes} {r : Hdr} :
    header (b0 :: b1 :: b2 :: b3 :: o :: t) = r ↔
      match r with
      | .bad e => announced (u32 b0 b1 b2 b3) o = .error e
      | .ok ml op => announced (u32 b0 b1 b2 b3) o = .ok ml ∧ ml ≤ t.length + 5 ∧ o = op
      | .wait => ∃ ml, announced (u32 b0 b1 b2 b3) o = .ok ml ∧ t.length + 5 < ml := by
  rw [header_cons]
  cases announced (u32 b0 b1 b2 b3) o with
  | error e => cases r <;> simp
  | ok m =>
    by_cases h : t.length + 5 < m
    · cases r <;> simp [h]
      omega
    · cases r <;> simp [h]
      omega

theorem header_long {buf : Bytes} {r : Hdr} (h : header buf = r) (hr : r ≠ .wait) :
    ∃ b0 b1 b2 b3 o t, buf = b0 :: b1 :: b2 :: b3 :: o :: t :=
  match buf, h with
  | _ :: _ :: _ :: _ :: _ :: _, _ => ⟨_, _, _, _, _, _, rfl⟩
  | [], h | [_], h | [_,_], h | [_,_,_], h | [_,_,_,_], h => absurd h.symm hr

theorem header_ok {buf : Bytes} {ml : Nat} {op : UInt8} (h : header buf = .ok ml op) :
    5 ≤ ml ∧ ml ≤ buf.length := by
  obtain ⟨_, _, _, _, _, t, rfl⟩ := header_long h nofun
  obtain ⟨ha, hl, -⟩ := header_eq.mp h
  exact ⟨(announced_eq_ok.mp ha).2.2.1, hl⟩

/-- `Unpacker.pop()` after a successful `ready()` -/
def popFrame (buf : Bytes) (ml : Nat) (op : UInt8) : Frame × Bytes :=
  (⟨op, (buf.drop 5).take (ml - 5)⟩, buf.drop ml)

/-- iterate the `Unpacker` until it stops: frames yielded, bytes left, error raised (if any) -/
def drain (buf : Bytes) : List Frame × Bytes × Option Err :=
  match h : header buf with
  | .wait => ([], buf, none)
  | .bad e => ([], buf, some e)
  | .ok ml op =>
    let r := drain (buf.drop ml)
    ((popFrame buf ml op).1 :: r.1, r.2.1, r.2.2)
termination_by buf.length
decreasing_by
  have := header_ok h
  simp only [List.length_drop]
  omega

/-- feed the chunks one at a time, iterating the decoder to exhaustion after each (`feed` then
    `for .. in unpacker`); stops at the first chunk on which the decoder raises -/
def feedAll (buf : Bytes) : List Bytes → List Frame × Bytes × Option Err
  | [] => ([], buf, none)
  | c :: cs =>
    let r := drain (buf ++ c)
    match r.2.2 with
    | some e => (r.1, r.2.1, some e)
    | none =>
      let r' := feedAll r.2.1 cs
      (r.1 ++ r'.1, r'.2.1, r'.2.2)

/-! ### messages -/

inductive Msg
  | error (text : Bytes)
  | info (name rand : Bytes)
  | auth (ident digest : Bytes)
  | publish (ident chan payload : Bytes)
  | subscribe (ident chan : Bytes)
  | unsubscribe (ident chan : Bytes)
deriving DecidableEq, Repr

/-- `strpack8`: `struct.pack('!B', len(x))` raises above 255 -/
def strpack8 (x : Bytes) : Option Bytes :=
  if x.length < 256 then some (UInt8.ofNat x.length :: x) else none

/-- the `msg*` builders; text fields are given as their UTF-8 bytes (`force_bytes`) -/
def build : Msg → Option Bytes
  | .error t => msghdr OP_ERROR t
  | .info n r => do msghdr OP_INFO ((← strpack8 n) ++ r)
  | .auth i d => do msghdr OP_AUTH ((← strpack8 i) ++ d)
  | .publish i c p => do msghdr OP_PUBLISH ((← strpack8 i) ++ (← strpack8 c) ++ p)
  | .subscribe i c => do msghdr OP_SUBSCRIBE ((← strpack8 i) ++ c)
  | .unsubscribe i c => do msghdr OP_UNSUBSCRIBE ((← strpack8 i) ++ c)

/-- `msgauth(rand, ident, secret)` with hash function `H` (`hashlib.sha1`) -/
def msgauth (H : Bytes → Bytes) (rand ident secret : Bytes) : Option Bytes :=
  build (.auth ident (H (rand ++ secret)))

/-- Python exceptions other than `ProtocolException` that a reader can raise -/
inductive Crash
  | typeError      -- `ord(b'')` in `strunpack8` on an empty field
  | unicodeError   -- `force_str` on bytes that are not UTF-8
  | notImplemented -- a handler the class does not implement
deriving DecidableEq, Repr

/-- `strunpack8`: one length byte, then a *slice* (short input is truncated, not rejected) -/
def strunpack8 (x : Bytes) : Except Crash (Bytes × Bytes) :=
  match x with
  | [] => .error .typeError
  | n :: t =>
    if validUtf8 (t.take n.toNat) then .ok (t.take n.toNat, t.drop n.toNat) else .error .unicodeError

/-- `force_str` on a bytes value -/
def forceStr (x : Bytes) : Except Crash Bytes :=
  if validUtf8 x then .ok x else .error .unicodeError

/-- the `read*` function selected by `message_received` for each opcode; `none` for an opcode
    outside the six (unreachable behind `header`) -/
def read (f : Frame) : Option (Except Crash Msg) :=
  if f.op.toNat = OP_ERROR then some (do .ok (.error (← forceStr f.body)))
  else if f.op.toNat = OP_INFO then some (do let (n, r) ← strunpack8 f.body; .ok (.info n r))
  else if f.op.toNat = OP_AUTH then some (do let (i, d) ← strunpack8 f.body; .ok (.auth i d))
  else if f.op.toNat = OP_PUBLISH then some (do
    let (i, r) ← strunpack8 f.body
    let (c, p) ← strunpack8 r
    .ok (.publish i c p))
  else if f.op.toNat = OP_SUBSCRIBE then some (do
    let (i, r) ← strunpack8 f.body
    .ok (.subscribe i (← forceStr r)))
  else if f.op.toNat = OP_UNSUBSCRIBE then some (do
    let (i, r) ← strunpack8 f.body
    .ok (.unsubscribe i (← forceStr r)))
  else none

end Hpfeeds
